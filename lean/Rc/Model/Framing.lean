/-
C09 model: BGP stream framing.

* `parseFrame`  mirrors `Connection::parse_frame`  (src/bgp/fsm/session.rs, after fix F12)
* `drain`/`feed`/`feedAll` mirror the `read_frame` loop: after every socket read the
  session calls `parse_frame` until it answers `None`
* `decodeMsg`   mirrors `Message::from_octets` (src/bgp/message/mod.rs:96): `Header::parse`
  (marker, length, type) is modelled concretely, the per-type decoders
  (`OpenMessage/UpdateMessage/NotificationMessage/KeepaliveMessage/RouteRefreshMessage::from_octets`
  and the OPEN accessors the FSM calls) are ONE ABSTRACT FUNCTION `body` – C01..C03 are about them
* `readMessage` mirrors the blocking reader `read_message` (src/bgp/message/mod.rs:146,
  after fix F11) with its fixed 4096-byte buffer
* `handleMsg`   mirrors `Session::handle_msg` + the arms of `Session::handle_event` a
  wire-derived event can reach (after fixes F23, F23b), `tickMsg`/`sessionRun` the message
  branch of `Session::tick`.  Since the unification with C08 it is no transcription of its own:
  it CALLS `Rc.Fsm.arm` / `Rc.Fsm.exec` (the C08 model of `handle_event`) and projects the result
  to the three things this file looks at (state, DelayOpenTimer running, connection present) -
  `Rc.Thm.C09.framing_step_is_fsm_step` states the agreement with `Rc.Fsm.handleInput` for every
  configuration and every C08 session state, `framing_table_is_fsm_arm` that the table this file
  used to spell out is the same function.

Core Lean only (the driver links this file).
-/
import Rc.Base
import Rc.Model.Fsm

namespace Rc.Framing
open Rc

/-! ### parse_frame -/

/-! ### the literals of `Connection::parse_frame` (session.rs) and `read_message` (message/mod.rs)

Named so that `Rc.Thm.C09.model_constants_agree` can tie THESE names - the ones the model functions below use - to
`Rc/Gen/Constants.lean`, which the pre step of `./check C09` regenerates from the source.  Editing a value here
or a literal in the source breaks that theorem.  They are scoped NOTATIONS for numerals, not `abbrev`s: `omega`
treats a reducible constant as an opaque atom, a notation elaborates to the numeral itself, so every proof about
`parseFrame` / `readMessage` sees literals while the source of the model has one place per value. -/

/-- `buf.set_position(16)` / `[buf[16], buf[17]]`: offset of the 2-octet length field (after the marker) -/
scoped notation "LEN_OFF" => (16 : Nat)
/-- `buf.remaining() >= 16 + 2` of `parse_frame`: marker + length -/
scoped notation "PF_PEEK" => (18 : Nat)
/-- `if len < 19 { return Err(..) }` of `parse_frame` (repair F12) -/
scoped notation "PF_MIN" => (19 : Nat)
/-- `(len as usize) - 18` of `parse_frame` -/
scoped notation "PF_SUB" => (18 : Nat)
/-- `read_exact(&mut buf[..18])` of `read_message`: octets read before the length is looked at -/
scoped notation "RM_FIRST" => (18 : Nat)
/-- `if len < 19` of `read_message` (repair F11) -/
scoped notation "RM_MIN" => (19 : Nat)
/-- `if len > 4096` of `read_message` (repair F11) -/
scoped notation "RM_MAX" => (4096 : Nat)
/-- `buf: &mut [u8; 4096]` of `read_message`: the length every caller's buffer has -/
scoped notation "RM_BUF" => (4096 : Nat)

/-- `buf.set_position(16); buf.get_u16()` on a buffer that holds at least 18 bytes. -/
def lenField (buf : Bytes) : Nat := (buf.getD LEN_OFF 0).toNat * 256 + (buf.getD (LEN_OFF + 1) 0).toNat

/-- `a - b` on `usize` with overflow checks on (test profile): `none` is the panic
"attempt to subtract with overflow". -/
def checkedSub (a b : Nat) : Option Nat := if b ≤ a then some (a - b) else none

/-- A frame handed to the FSM: decoded value and the raw bytes it was cut from. -/
abbrev Frame (μ : Type) := μ × Bytes

/-- mirrors src/bgp/fsm/session.rs `Connection::parse_frame`.
`dec` is `BgpMsg::from_octets(b, Some(&self.session_config))`.
Result: `ok none` = need more bytes, `ok (some (frame, rest))` = one frame cut, `rest` is the
buffer after `self.buffer.advance(len)`, `err` = `Err(ParseError)`. -/
def parseFrame {μ : Type} (dec : Bytes → Outcome μ) (buf : Bytes) :
    Outcome (Option (Frame μ × Bytes)) :=
  if buf.length < PF_PEEK then .ok none            -- `if buf.remaining() >= 16 + 2`
  else
    let len := lenField buf
    if len < PF_MIN then .err                      -- fix F12: `if len < 19 { return Err(..) }`
    else
      match checkedSub len PF_SUB with             -- `(len as usize) - 18`
      | none => .panic
      | some need =>
        if need ≤ buf.length - PF_PEEK then        -- `buf.remaining() >= need` (position is 18)
          match takeN len buf with                 -- `&buf.into_inner()[..len.into()]`
          | none => .panic
          | some (frame, rest) =>
            match dec frame with                   -- `BgpMsg::from_octets(b, ..)?`
            | .ok m => .ok (some ((m, frame), rest))   -- `self.buffer.advance(len.into())`
            | .err => .err
            | .panic => .panic
        else .ok none

theorem parseFrame_some {μ : Type} {dec : Bytes → Outcome μ} {buf : Bytes} {m : μ}
    {frame rest : Bytes} (h : parseFrame dec buf = .ok (some ((m, frame), rest))) :
    19 ≤ frame.length ∧ buf = frame ++ rest ∧ lenField buf = frame.length ∧ dec frame = .ok m := by
  unfold parseFrame at h
  split at h
  · cases h
  · dsimp only at h
    split at h
    · cases h
    · split at h
      · cases h
      · split at h
        · split at h
          · cases h
          · rename_i f r ht
            have hl := takeN_length ht
            split at h
            · rename_i m' hd
              cases h
              exact ⟨by omega, hl.2, hl.1.symm, hd⟩
            · cases h
            · cases h
        · cases h

/-- the buffer strictly shrinks when a frame is cut (termination of the drain loop) -/
theorem parseFrame_rest_lt {μ : Type} {dec : Bytes → Outcome μ} {buf : Bytes} {m : μ}
    {frame rest : Bytes} (h : parseFrame dec buf = .ok (some ((m, frame), rest))) :
    rest.length < buf.length := by
  have := parseFrame_some h
  have h2 : buf.length = frame.length + rest.length := by rw [this.2.1]; simp
  omega

/-! ### the read_frame loop -/

/-- State of a run: frames delivered so far, and how the stream stands:
`ok buf` = still reading with `buf` buffered, `err` = the session ended with an error,
`panic` = the session task panicked. -/
abbrev Run (μ : Type) := List (Frame μ) × Outcome Bytes

/-- Repeated `parse_frame` on the buffer until it answers `None` or fails: what the session
extracts between two socket reads. -/
def drain {μ : Type} (dec : Bytes → Outcome μ) (buf : Bytes) : Run μ :=
  match h : parseFrame dec buf with
  | .ok none => ([], .ok buf)
  | .err => ([], .err)
  | .panic => ([], .panic)
  | .ok (some ((m, frame), rest)) =>
    have : rest.length < buf.length := parseFrame_rest_lt h
    let r := drain dec rest
    ((m, frame) :: r.1, r.2)
termination_by buf.length

/-- One socket read of `chunk` (`tcp_in.read_buf(&mut self.buffer)`), then drain.
After an error or a panic nothing more is read. -/
def feed {μ : Type} (dec : Bytes → Outcome μ) (st : Run μ) (chunk : Bytes) : Run μ :=
  match st.2 with
  | .ok buf => let r := drain dec (buf ++ chunk); (st.1 ++ r.1, r.2)
  | _ => st

/-- The whole session on a given sequence of reads, starting with an empty buffer. -/
def feedAll {μ : Type} (dec : Bytes → Outcome μ) (chunks : List Bytes) : Run μ :=
  chunks.foldl (feed dec) ([], .ok [])

/-- `feed` with the chunk index at which every frame was delivered (for the correspondence
run only: delivery must be prompt). -/
def feedAt {μ : Type} (dec : Bytes → Outcome μ) :
    Nat → Run μ → List Nat → Option Nat → List Bytes → Run μ × List Nat × Option Nat
  | _, st, at_, ea, [] => (st, at_, ea)
  | i, st, at_, ea, c :: cs =>
    match st.2 with
    | .ok _ =>
      let st' := feed dec st c
      let k := st'.1.length - st.1.length
      let ea' := match st'.2 with | .ok _ => ea | _ => some i
      feedAt dec (i + 1) st' (at_ ++ List.replicate k i) ea' cs
    | _ => (st, at_, ea)

/-! ### Message::from_octets -/

/-- What the FSM needs to know of a decoded message. `open asAllowed addpathOk`:
`config.remote_asn_allowed(open.my_asn())`, `open.addpath_families_vec().is_ok()`. -/
inductive WireMsg where
  | open (asAllowed addpathOk : Bool)
  | update
  | notification (verErr : Bool)   -- version error (2/1) raises NotifMsgVerErr, any other NotifMsg
  | keepalive
  | routeRefresh
  deriving Repr, DecidableEq

def marker : Bytes := List.replicate 16 255

/-- mirrors src/bgp/message/mod.rs:96 `Message::from_octets`:
`Header::parse` = `Marker::check` (16 bytes, all 0xff), `parse_u16_be`, `parse_u8`,
`seek(pos)`, `parse_octets(19)`; then dispatch on the type byte: 1..4 and, since the repair of K13
(`fix: Message::from_octets decodes a ROUTE-REFRESH`), 5 go to their decoders, everything unknown is
`Err(ParseError::Unsupported)`. `body` stands for the five per-type decoders. -/
def decodeMsg (body : Bytes → Outcome WireMsg) (f : Bytes) : Outcome WireMsg :=
  if f.length < 16 then .err                       -- parse_buf(&mut [0u8; 16])? : ShortInput
  else if f.take 16 ≠ marker then .err             -- "invalid BGP marker"
  else if f.length < 18 then .err                  -- parse_u16_be()?
  else if f.length < 19 then .err                  -- parse_u8()?   (then seek + parse_octets(19): same bound)
  else
    let t := (f.getD 18 0).toNat
    if t = 1 ∨ t = 2 ∨ t = 3 ∨ t = 4 ∨ t = 5 then body f
    else .err                                      -- Unimplemented(t) => Unsupported

/-! ### read_message (blocking reader) -/

/-- A `std::io::Read`: the bytes still to come; `partialCopy` distinguishes the default
`read_exact` (loops over `read`, copies what there is before failing with UnexpectedEof)
from the `&[u8]` specialisation (copies nothing and empties the slice when it is too short). -/
structure Reader where
  data : Bytes
  partialCopy : Bool

/-- overwrite `buf[off .. off + d.length]` with `d` (caller guarantees the range fits) -/
def blit (buf : Bytes) (off : Nat) (d : Bytes) : Bytes :=
  buf.take off ++ d ++ buf.drop (off + d.length)

/-- `bytes.read_exact(&mut buf[off..off+n])`: (succeeded, reader after, buffer after) -/
def readExact (r : Reader) (buf : Bytes) (off n : Nat) : Bool × Reader × Bytes :=
  if n ≤ r.data.length then
    (true, { r with data := r.data.drop n }, blit buf off (r.data.take n))
  else if r.partialCopy then
    (false, { r with data := [] }, blit buf off r.data)
  else
    (false, { r with data := [] }, buf)

/-- mirrors src/bgp/message/mod.rs:146 `read_message` (after fix F11). `buf` is the caller's
`[u8; 4096]`. Result: `ok none` = `Ok(None)` (EOF inside the first 18 bytes),
`ok (some frame)` = `Ok(Some(&buf[..len]))`, `err` = `Err(_)`; plus reader and buffer after. -/
def readMessage (r : Reader) (buf : Bytes) : Outcome (Option Bytes) × Reader × Bytes :=
  if buf.length < RM_FIRST then (.panic, r, buf)   -- `&mut buf[..18]` (never: the type is [u8; 4096])
  else
    let (ok1, r1, b1) := readExact r buf 0 RM_FIRST
    if !ok1 then (.ok none, r1, b1)                -- UnexpectedEof => Ok(None)
    else
      let len := lenField b1                       -- u16::from_be_bytes([buf[16], buf[17]])
      if len < RM_MIN then (.err, r1, b1)          -- fix F11
      else if len > RM_MAX then (.err, r1, b1)     -- fix F11
      else if ¬ (RM_FIRST ≤ len ∧ len ≤ b1.length) then (.panic, r1, b1)   -- `&mut buf[18..len]`
      else
        let (_, r2, b2) := readExact r1 b1 RM_FIRST (len - RM_FIRST)   -- `let _ = bytes.read_exact(..)`
        (.ok (some (b2.take len)), r2, b2)         -- `Ok(Some(&buf[..len]))`

/-- repeated `read_message` on one reader and one buffer, at most `n` calls (driver) -/
def readMessages : Nat → Reader → Bytes → List (Outcome (Option Bytes))
  | 0, _, _ => []
  | n + 1, r, buf =>
    match readMessage r buf with
    | (.ok (some f), r', b') => .ok (some f) :: readMessages n r' b'
    | (o, _, _) => [o]

/-! ### the FSM as seen from the wire -/

inductive St where
  | idle | connect | active | openSent | openConfirm | established | unimplemented
  deriving Repr, DecidableEq

/-- PDUs the session sends in reply (`pdu_out_tx`) -/
inductive Out where
  | open | keepalive | notif (code sub : Nat)
  deriving Repr, DecidableEq

/-- the part of a `Session` the wire-driven transitions read or write -/
structure Sess where
  st : St
  delayOpen : Bool      -- `delay_open_timer.is_running()`
  conn : Bool           -- `connection.is_some()`
  deriving Repr, DecidableEq

inductive HRes where
  | todo                                   -- a `todo!()` arm: panics "not yet implemented"
  | panic                                  -- `.unwrap()` on a missing connection
  | done (ok : Bool) (s : Sess) (outs : List Out)
  deriving Repr, DecidableEq

/-! #### the C08 model of `handle_event`, seen through `Sess`

`Rc.Fsm.State` has the six RFC states; `State::Unimplemented(_)` (the catch-all of `typeenum!`,
never constructed by the session code but reachable through the `verif_set_state` hook) exists only
here.  `Rc.Fsm.St` carries four timer flags, the connect-retry counter and the negotiated
configuration; the arms a received message can reach read only `state`, `delay_open_timer.is_running()`
and `connection.is_some()` of them, which is what `Sess` keeps. -/

def St.toFsm : St → Option Fsm.State
  | .idle => some .idle | .connect => some .connect | .active => some .active
  | .openSent => some .openSent | .openConfirm => some .openConfirm | .established => some .established
  | .unimplemented => none

def St.ofFsm : Fsm.State → St
  | .idle => .idle | .connect => .connect | .active => .active
  | .openSent => .openSent | .openConfirm => .openConfirm | .established => .established

/-- the PDU a C08 output is (what goes to the application channel is not a PDU) -/
def Out.ofFsm : Fsm.Out → Option Out
  | .pduOpen _ => some .open
  | .pduKeepalive => some .keepalive
  | .pduNotification c s => some (.notif c s)
  | _ => none

/-- what this file sees of a C08 session state -/
def Sess.ofFsm (s : Fsm.St) : Sess := ⟨St.ofFsm s.state, s.dop, s.conn⟩

/-- a C08 session state with the given view (the fields `Sess` does not keep are those of a fresh
session; `Rc.Thm.C09.exec_view` shows that they do not influence the view of the result) -/
def Sess.lift (s : Sess) (st : Fsm.State) : Fsm.St := ⟨st, false, false, false, s.delayOpen, 0, s.conn, none⟩

/-- a configuration to run `Rc.Fsm.arm` / `Rc.Fsm.exec` with: the arms of the six message events read
none of its fields (`Rc.Thm.C09.arm_msg_ctx`), and none of them reaches the view of the result -/
def wireCfg : Fsm.Cfg := ⟨false, false, false, false, [], 0, []⟩

/-- the event kind `Session::handle_msg` (session.rs:485) raises for a decoded message:
OPEN: BgpOpenWithDelayOpenTimerRunning if `self.delay_open_timer.is_running()` else BgpOpen;
KEEPALIVE: KeepaliveMsg; UPDATE: UpdateMsg; NOTIFICATION: NotifMsgVerErr for OPEN Message Error /
Unsupported Version Number, else NotifMsg; ROUTE-REFRESH raises no event ("not doing anything") -/
def kindOfWire (dop : Bool) : WireMsg → Option Fsm.Kind
  | .open a b => some (if dop then .bgpOpenDelay a b else .bgpOpen a b)
  | .update => some .updateMsg
  | .notification v => some (if v then .notifMsgVerErr else .notifMsg)
  | .keepalive => some .keepaliveMsg
  | .routeRefresh => none

/-- mirrors `Session::handle_msg` (session.rs:485) composed with `Session::handle_event` for the
six events a received message can raise: the event kind is `kindOfWire`, the arm is C08's
`Rc.Fsm.arm`, its statements are interpreted by C08's `Rc.Fsm.exec`.
`(S::Unimplemented(_), _) => set_state(Idle)` is the first arm of `handle_event`. -/
def handleMsg (s : Sess) (m : WireMsg) : HRes :=
  match kindOfWire s.delayOpen m with
  | none => .done true s []                         -- ROUTE-REFRESH: `handle_event` is not called
  | some k =>
    match s.st.toFsm with
    | none => .done true { s with st := .idle } []  -- "Unimplemented state, resetting to Idle"
    | some st =>
      match Fsm.arm (Fsm.ctxOf wireCfg (s.lift st)) st k with
      | .todo => .todo
      | .panic => .panic
      | .run acts ok =>
        let r := Fsm.exec wireCfg Fsm.defaultOpen (s.lift st) acts
        .done ok (Sess.ofFsm r.1) (r.2.filterMap Out.ofFsm)

/-- outcome of one turn of the message branch of `Session::tick` -/
inductive Tick where
  | panic                                  -- the session task panics
  | readErr                                -- read_frame failed: tick returns Err, connection dropped, state Connect
  | eof                                    -- Ok(None): ConnectionLost to the application, state Connect
  | handled (ok : Bool) (s : Sess) (outs : List Out) (rest : Bytes)
  deriving Repr, DecidableEq

/-- the `Ok(Some(m))` arm of the frame branch of `Session::tick` (session.rs:289): `handle_msg`, and
`set_state(State::Connect); return Err` when it failed (= the `.frame` case of `Rc.Fsm.tickStep`,
`Rc.Thm.C09.framing_tick_is_fsm_tick`) -/
def tickHandle (s : Sess) (m : WireMsg) (rest : Bytes) : Tick :=
  match handleMsg s m with
  | .todo => .panic
  | .panic => .panic
  | .done true s' outs => .handled true s' outs rest
  | .done false s' outs => .handled false { s' with st := .connect } outs rest

/-- mirrors the `maybe_read_frame` branch of `Session::tick` (session.rs:334) when every byte
the peer will ever send is in `buf` and the peer then closes: `read_frame` = `parse_frame`,
else EOF (`Ok(None)` on an empty buffer, "connection reset by peer" otherwise). -/
def tickMsg (body : Bytes → Outcome WireMsg) (s : Sess) (buf : Bytes) : Tick :=
  match parseFrame (decodeMsg body) buf with
  | .panic => .panic
  | .err => .readErr
  | .ok none => if buf.isEmpty then .eof else .readErr
  | .ok (some ((m, _), rest)) => tickHandle s m rest

/-- `Session::process` on the message branch: tick until an error, EOF or a dropped
connection. Result: the ticks, final session. -/
def sessionRun (body : Bytes → Outcome WireMsg) : Nat → Sess → Bytes → List Tick × Sess
  | 0, s, _ => ([], s)
  | n + 1, s, buf =>
    match tickMsg body s buf with
    | .handled true s' outs rest =>
      if s'.conn then
        let r := sessionRun body n s' rest
        (.handled true s' outs rest :: r.1, r.2)
      else ([.handled true s' outs rest], s')
    | .handled false s' outs rest => ([.handled false s' outs rest], s')
    | .readErr => ([.readErr], { s with st := .connect, conn := false })
    | .eof => ([.eof], { s with st := .connect, conn := false })
    | .panic => ([.panic], s)

end Rc.Framing
