/-
Lemmas for `Rc.Thm.C01.decode_encode`, part 1: one typed attribute – its value
octets in either ASN width are accepted by the type's `validate` and parsed
back to the value by the type's `parse` (C04's `value_spec` for four octets,
C13's `compose_spec` for two-octet AS paths); lists of attributes.
-/
import Rc.Lemmas.UpdateObs

namespace Rc.Upd
open Rc Rc.Nlri Rc.Attr Rc.AsPath

theorem encSegsW_eq (w : Bool) (ss : List Seg) : encSegsW w ss = encSegs w ss := rfl

theorem segs_spec (w : Bool) (ss : List Seg) (hw : ∀ s ∈ ss, s.wireOk w = true) :
    pathValid w (encSegs w ss) = true ∧ parsePath w (encSegs w ss) = .ok (hopsOfWire w ss) := by
  have hc := check_enc w ss hw
  have hs := segments_enc w ss hw
  exact ⟨by simp [pathValid, hc], by simp [parsePath, hc, hops, hs, hopsOfWire]⟩

theorem compose_of_pathBytes {h : HopPath} {v : Bytes} (hp : pathBytes h = .ok v) : compose true h = .ok v := by
  unfold pathBytes at hp
  split at hp
  · rename_i hc; rw [hc, ← hp]
  · cases hp

/-- C13's composer (`to_as_path` / `try_to_asn16_path`) writes a hop path as a segment list of the
session's width -/
theorem asPath_segs (four : Bool) (h : HopPath) (hw : WfHops h = true)
    (hn : four = false → allSmall (asnsOf h) = true) :
    ∃ ss : List Seg, (∀ s ∈ ss, s.wireOk four = true) ∧ typedValue four (.asPath h) = .ok (encSegs four ss) ∧
      hopsOfWire four ss = h.map (Hop.norm four) := by
  obtain ⟨ss, c1, c2, c3, c4, c5, _⟩ := compose_spec h hw
  cases four with
  | true => exact ⟨ss, c3, c1, c5 true⟩
  | false =>
    have hs := hn rfl
    exact ⟨ss, c4 hs, by rw [show typedValue false (.asPath h) = compose false h from rfl, c2, if_pos hs], c5 false⟩

/-- C04's `value_spec` in a session of width `four`: four octets wide, or the kind's rules ignore the
width (every code but AS_PATH and AGGREGATOR) -/
theorem typed_spec_wide (four : Bool) (a : TypedAttr) (hw : WfAttrW a = true)
    (hf : four = true ∨ (a.code == 2) = false ∧ (a.code == 7) = false)
    (hv : ∀ v, composeValue a = .ok v → typedValue four a = .ok v) :
    ∃ v, typedValue four a = .ok v ∧ validate a.code four v = some true ∧
      parseValue a.code four v = .ok a.norm := by
  obtain ⟨v, h1, -, h3, h4⟩ := value_spec a hw
  have hwide : validate a.code four v = validate a.code true v ∧
      parseValue a.code four v = parseValue a.code true v := by
    cases four with
    | true => exact ⟨rfl, rfl⟩
    | false =>
      obtain ⟨h2, h7⟩ := hf.resolve_left Bool.false_ne_true
      exact ⟨validate_width _ _ (ne_of_beq_false h2) (ne_of_beq_false h7),
        parseValue_width _ _ (ne_of_beq_false h2) (ne_of_beq_false h7)⟩
  exact ⟨v, hv v h1, hwide.1.trans h3, hwide.2.trans h4⟩

/-- **typed values in either width.** For every well-formed value of the 20
kinds and both ASN widths: the value octets exist, the type's `validate`
accepts them and the type's `parse` returns the value. -/
theorem typed_spec (four : Bool) (a : TypedAttr) (hw : WfAttrW a = true)
    (hn : four = false → narrowOk a = true) :
    ∃ v, typedValue four a = .ok v ∧ validate a.code four v = some true ∧
      parseValue a.code four v = .ok (normW four a) := by
  cases a with
  | asPath h =>
    obtain ⟨ss, hss, hv, hh⟩ := asPath_segs four h hw hn
    obtain ⟨p1, p2⟩ := segs_spec four ss hss
    refine ⟨encSegs four ss, hv, congrArg some p1, ?_⟩
    rw [show parseValue (TypedAttr.asPath h).code four (encSegs four ss) =
      match parsePath four (encSegs four ss) with | .ok H => .ok (.asPath H) | _ => .err from rfl, p2]
    exact congrArg (fun x => Outcome.ok (TypedAttr.asPath x)) hh
  | aggregator asn addr =>
    cases four with
    | true => exact typed_spec_wide true _ hw (.inl rfl) (fun _ h => h)
    | false =>
      have h : asn < 4294967296 ∧ addr < 4294967296 := by simpa [WfAttrW, u32ok] using hw
      have hs : asn < 65536 := of_decide_eq_true (hn rfl)
      refine ⟨be16 asn ++ be32 addr, rfl, rfl, ?_⟩
      simp [parseValue, TypedAttr.code, normW, rd16_be16 asn hs, rd32_be32' addr h.2]
  | as4Path h => exact typed_spec_wide four _ hw (.inr ⟨rfl, rfl⟩) (fun _ => compose_of_pathBytes)
  | _ => exact typed_spec_wide four _ hw (.inr ⟨rfl, rfl⟩) (fun _ h => h)

theorem typedCode_lt (a : TypedAttr) : a.code < 256 := by cases a <;> exact Nat.le_of_ble_eq_true rfl

theorem typedCode_table (a : TypedAttr) : ∃ cf, canonicalFlags a.code = some cf := by
  cases a <;> exact ⟨_, rfl⟩

namespace AttrC

theorem code_lt (a : AttrC) : a.code < 256 := by
  cases a with
  | typed _ t => exact typedCode_lt t
  | path _ as4 _ => cases as4 <;> exact Nat.le_of_ble_eq_true rfl
  | raw _ tc _ => exact tc.toNat_lt
  | _ => exact Nat.le_of_ble_eq_true rfl

theorem code_toNat (a : AttrC) : (UInt8.ofNat a.code).toNat = a.code := UInt8.toNat_ofNat_of_lt' a.code_lt

end AttrC

/-- **one attribute of a content.** Its value octets exist; for the 20 typed
kinds `validate` accepts them and `parse` gives the value `to_owned()` has to
return, for the others there is no rule (they are surfaced as `Unimplemented`). -/
theorem attr_spec (cfg : Cfg) (a : AttrC) (hk : a.kindOk cfg) :
    a.value cfg = .ok (a.valueD cfg) ∧
      (match a.ownedT cfg with
        | some t => validate a.code cfg.four (a.valueD cfg) = some true ∧
            parseValue a.code cfg.four (a.valueD cfg) = .ok t
        | none => validate a.code cfg.four (a.valueD cfg) = none) := by
  cases a with
  | typed fl t =>
    obtain ⟨v, h1, h2, h3⟩ := typed_spec cfg.four t hk.1 hk.2
    have hv : AttrC.valueD cfg (.typed fl t) = v := by simp only [AttrC.valueD, AttrC.value, h1]
    rw [hv]
    exact ⟨h1, h2, h3⟩
  | path fl as4 ss =>
    obtain ⟨p1, p2⟩ := segs_spec (as4 || cfg.four) ss hk
    rw [← encSegsW_eq] at p1 p2
    cases as4 <;> simp only [Bool.false_or, Bool.true_or] at p1 p2
    all_goals exact ⟨rfl, congrArg some p1, by simp [parseValue, AttrC.code, AttrC.valueD, AttrC.value, p2]⟩
  | raw fl tc v => exact ⟨rfl, validate_none hk.1 _ _⟩
  | reach fl f nh rsv nlri =>
    obtain ⟨b, hb, _⟩ := nlris_reported f (cfg.rx (famCode f)) nlri hk.1
    exact ⟨by simp only [AttrC.valueD, AttrC.value, hb], rfl⟩
  | unreach fl f nlri =>
    obtain ⟨b, hb, _⟩ := nlris_reported f (cfg.rx (famCode f)) nlri hk
    exact ⟨by simp only [AttrC.valueD, AttrC.value, hb], rfl⟩
  | _ => exact ⟨rfl, rfl⟩

/-- what `path_attributes()` yields for the attribute and what `to_owned()` makes of it -/
theorem attr_reported (cfg : Cfg) (a : AttrC) (hk : a.kindOk cfg) :
    classify cfg.four (a.rawOf cfg).fl (a.rawOf cfg).tc (a.rawOf cfg).v = a.wire cfg ∧
      toOwned cfg.four (a.wire cfg) = .ok (a.owned cfg) := by
  obtain ⟨_, h2⟩ := attr_spec cfg a hk
  simp only [AttrC.rawOf, classify, a.code_toNat, AttrC.wire, AttrC.owned]
  cases ho : a.ownedT cfg with
  | some t =>
    simp only [ho] at h2
    simp [h2.1, toOwned, h2.2]
  | none =>
    simp only [ho] at h2
    simp [h2, toOwned]

theorem lowerAll_ok (cfg : Cfg) (l : List AttrC) (h : ∀ a ∈ l, a.kindOk cfg) :
    lowerAll cfg l = .ok (l.map (AttrC.rawOf cfg)) := by
  induction l with
  | nil => rfl
  | cons a r ih =>
    have h1 := (attr_spec cfg a (h a (by simp))).1
    have h2 := ih (fun x hx => h x (by simp [hx]))
    simp [lowerAll, AttrC.lower, h1, h2, AttrC.rawOf]

theorem firstWith_map (cfg : Cfg) (k : Nat) (l : List AttrC) :
    firstWith k (l.map (AttrC.rawOf cfg)) = (l.find? (fun a => a.code == k)).map (AttrC.rawOf cfg) := by
  induction l with
  | nil => rfl
  | cons a r ih =>
    simp only [List.map_cons, firstWith, List.find?_cons, show (AttrC.rawOf cfg a).tc.toNat = a.code from a.code_toNat]
    by_cases hc : a.code = k
    · simp [hc]
    · simp [hc, beq_false_of_ne hc, ih]

end Rc.Upd
