/-
Helper lemmas for C06 (splitter of UpdateBuilder).  Nothing here is a property
statement; the property theorems are in Rc/Thm/C06.lean.
-/
import Rc.Model.Builder

namespace Rc.Builder

variable {N : Type} (sz : N → Nat)

@[simp] theorem sumSz_nil : sumSz sz ([] : List N) = 0 := rfl

@[simp] theorem sumSz_cons (x : N) (l : List N) : sumSz sz (x :: l) = sz x + sumSz sz l := by
  simp [sumSz]

theorem sumSz_append (a b : List N) : sumSz sz (a ++ b) = sumSz sz a + sumSz sz b := by
  simp [sumSz]

theorem sumSz_flatMap (enc : N → Bytes) (l : List N) (h : ∀ x ∈ l, (enc x).length = sz x) :
    (l.flatMap enc).length = sumSz sz l := by
  induction l with
  | nil => rfl
  | cons a t ih =>
    rw [List.flatMap_cons, List.length_append, sumSz_cons, h a (by simp), ih (fun x hx => h x (by simp [hx]))]

theorem sumSz_take_le (k : Nat) (l : List N) : sumSz sz (l.take k) ≤ sumSz sz l := by
  have h := sumSz_append sz (l.take k) (l.drop k)
  rw [List.take_append_drop] at h
  omega

theorem sumSz_mem_le {x : N} {l : List N} (h : x ∈ l) : sz x ≤ sumSz sz l := by
  induction l with
  | nil => cases h
  | cons y ys ih =>
    rw [sumSz_cons]
    cases h with
    | head => omega
    | tail _ h' => have := ih h'; omega

theorem sumSz_pos_of_ne_nil (hsz : ∀ n, 1 ≤ sz n) {l : List N} (h : l ≠ []) : 1 ≤ sumSz sz l := by
  cases l with
  | nil => exact absurd rfl h
  | cons x xs => rw [sumSz_cons]; have := hsz x; omega

theorem hdrLen_le (v : Nat) : hdrLen v ≤ 4 := by unfold hdrLen; split <;> omega

theorem hdrLen_ge (v : Nat) : 3 ≤ hdrLen v := by unfold hdrLen; split <;> omega

theorem hdrLen_mono {a b : Nat} (h : a ≤ b) : hdrLen a ≤ hdrLen b := by
  unfold hdrLen; split <;> split <;> omega

theorem composeLen_le (nh : NextHop) : nh.composeLen ≤ 33 := by cases nh <;> simp [NextHop.composeLen]

theorem unreachLen_mono {a b : List N} (h : sumSz sz a ≤ sumSz sz b) :
    unreachLen sz a ≤ unreachLen sz b := by
  unfold unreachLen unreachValueLen
  exact Nat.add_le_add (hdrLen_mono (by omega)) (by omega)

theorem reachLen_mono {a b : List N} (nh : NextHop) (h : sumSz sz a ≤ sumSz sz b) :
    reachLen sz a nh ≤ reachLen sz b nh := by
  unfold reachLen reachValueLen
  exact Nat.add_le_add (hdrLen_mono (by omega)) (by omega)

/-- what `compose` writes for an MP attribute is what `compose_len` announced -/
theorem composedAttr_eq (v : Nat) : composedAttr v = hdrLen v + v := by
  unfold composedAttr hdrLen; split <;> omega

theorem splitLoop_spec {thr : Nat} (l : List N) (idx acc : Nat) (hacc : acc ≤ thr) :
    ∃ j, acc + sumSz sz (l.take j) ≤ thr ∧
      (splitLoop sz thr l idx acc = some (idx + j) ∧ j < l.length ∨
        splitLoop sz thr l idx acc = none ∧ j = l.length) := by
  induction l generalizing idx acc with
  | nil => exact ⟨0, hacc, .inr ⟨rfl, rfl⟩⟩
  | cons x xs ih =>
    simp only [splitLoop]
    split
    · exact ⟨0, hacc, .inl ⟨rfl, Nat.zero_lt_succ _⟩⟩
    · obtain ⟨j, hj, h⟩ := ih (idx + 1) (acc + sz x) (by omega)
      refine ⟨j + 1, by rw [List.take_succ_cons, sumSz_cons]; omega, ?_⟩
      rw [Nat.add_assoc, Nat.add_comm 1 j] at h
      exact h.imp (.imp_right Nat.succ_lt_succ) (.imp_right (congrArg (· + 1)))

theorem splitPoint_spec (thr : Nat) {l : List N} (hl : l ≠ []) :
    1 ≤ splitPoint sz thr l ∧ splitPoint sz thr l ≤ l.length ∧
    (sumSz sz (l.take (splitPoint sz thr l)) ≤ thr ∨ splitPoint sz thr l = 1) := by
  have hlen : 1 ≤ l.length := List.length_pos_iff.2 hl
  unfold splitPoint
  obtain ⟨j, hj, ⟨h, hlt⟩ | ⟨h, rfl⟩⟩ := splitLoop_spec sz l 0 0 (Nat.zero_le thr) <;> rw [h] <;> simp only
  · rcases Nat.eq_zero_or_pos j with rfl | hpos
    · exact ⟨Nat.le_refl _, hlen, .inr rfl⟩
    · have : max (0 + j) 1 = j := by omega
      rw [this]
      exact ⟨hpos, Nat.le_of_lt hlt, .inl (by omega)⟩
  · exact ⟨hlen, Nat.le_refl _, .inl (by omega)⟩

theorem nlriCount_eq (b : B N) : nlriCount b = b.wdList.length + b.annList.length := by
  unfold nlriCount B.wdList B.annList
  cases b.wd <;> cases b.ann <;> rfl

/-- next hop of a builder / message, if it has an MP_REACH_NLRI part -/
def nhOfAnn : Option (List N × NextHop) → Option NextHop
  | some (_, nh) => some nh
  | none => none

theorem wdList_eq_nil {b : B N} (h : ∀ w ws, b.wd ≠ some (w :: ws)) : b.wdList = [] := by
  unfold B.wdList
  rcases hw : b.wd with _ | _ | ⟨w, ws⟩
  · rfl
  · rfl
  · exact absurd hw (h w ws)

theorem annList_eq_nil {b : B N} (h : ∀ a as nh, b.ann ≠ some (a :: as, nh)) : b.annList = [] := by
  unfold B.annList
  rcases ha : b.ann with _ | ⟨_ | ⟨a, as⟩, nh⟩
  · rfl
  · rfl
  · exact absurd ha (h a as nh)

theorem optReach_eq (a : Option (List N × NextHop)) :
    optReachLen sz a =
      (match a with
       | some (l, nh) => composedAttr (3 + nh.composeLen + 1 + sumSz sz l)
       | none => 0) := by
  rcases a with _ | ⟨l, nh⟩
  · rfl
  · simp only [optReachLen, reachLen, reachValueLen, composedAttr_eq]
    rw [show 2 + 1 + 1 + nh.composeLen + sumSz sz l = 3 + nh.composeLen + 1 + sumSz sz l by omega]

theorem optUnreach_eq (w : Option (List N)) :
    optUnreachLen sz w =
      (match w with
       | some l => composedAttr (3 + sumSz sz l)
       | none => 0) := by
  cases w with
  | none => rfl
  | some l => simp only [optUnreachLen, unreachLen, unreachValueLen, composedAttr_eq]

/-- the attribute bytes written are what the length calculation announced -/
theorem actualAttrLen_eq (m : Msg N) :
    m.actualAttrLen sz = optReachLen sz m.ann + optUnreachLen sz m.wd + attrsLen m.attrs := by
  rw [optReach_eq, optUnreach_eq]
  rfl

/-- `into_message` by cases; where it calls `finish`, the two `u16::try_from(..).unwrap()` there
cannot fail, both lengths being below `MAX_PDU` -/
theorem intoMessage_cases (b : B N) :
    (∃ e, intoMessage sz b = .err e ∧ (isValid b ≠ none ∨ calcPduLen sz b > MAX_PDU)) ∨
    (isValid b = none ∧ calcPduLen sz b ≤ MAX_PDU ∧
      intoMessage sz b = .ok ⟨calcPduLen sz b,
        attrsLen b.attrs + optReachLen sz b.ann + optUnreachLen sz b.wd, b.wd, b.ann, b.attrs⟩) := by
  unfold intoMessage
  cases hv : isValid b with
  | some e => exact .inl ⟨e, rfl, .inl (Option.some_ne_none e)⟩
  | none =>
    by_cases hle : calcPduLen sz b > MAX_PDU
    · exact .inl ⟨_, if_pos hle, .inr hle⟩
    · refine .inr ⟨rfl, Nat.le_of_not_gt hle, ?_⟩
      have h1 : ¬ calcPduLen sz b ≥ 65536 := by unfold MAX_PDU at hle; omega
      have h2 : ¬ attrsLen b.attrs + optReachLen sz b.ann + optUnreachLen sz b.wd ≥ 65536 := by
        unfold calcPduLen at h1; omega
      simp only [hle, finish, h1, h2, if_false]

theorem intoMessage_ok {b : B N} {m : Msg N} (h : intoMessage sz b = .ok m) :
    isValid b = none ∧ calcPduLen sz b ≤ MAX_PDU ∧
    m = ⟨calcPduLen sz b, attrsLen b.attrs + optReachLen sz b.ann + optUnreachLen sz b.wd,
      b.wd, b.ann, b.attrs⟩ := by
  rcases intoMessage_cases sz b with ⟨e, he, _⟩ | ⟨hv, hle, he⟩ <;> rw [he] at h <;> cases h
  exact ⟨hv, hle, rfl⟩

theorem intoMessage_ne_panic (b : B N) : ∀ (_ : intoMessage sz b = .panic), False := by
  intro h
  rcases intoMessage_cases sz b with ⟨e, he, _⟩ | ⟨_, _, he⟩ <;> rw [he] at h <;> cases h

theorem intoMessage_err_iff (b : B N) :
    (∃ e, intoMessage sz b = .err e) ↔ (isValid b ≠ none ∨ calcPduLen sz b > MAX_PDU) := by
  rcases intoMessage_cases sz b with ⟨e, he, hc⟩ | ⟨hv, hle, he⟩
  · exact ⟨fun _ => hc, fun _ => ⟨e, he⟩⟩
  · rw [he]
    exact ⟨fun ⟨_, h⟩ => (by cases h), fun h => h.elim (absurd hv) (absurd · (Nat.not_lt.2 hle))⟩

def remWd : Option (B N) → List N
  | some b => b.wdList
  | none => []

def remAnn : Option (B N) → List N
  | some b => b.annList
  | none => []

theorem intoRemainder_cases (b : B N) :
    (intoRemainder b = none ∧ b.wdList = [] ∧ b.annList = []) ∨
    (intoRemainder b = some b ∧ 1 ≤ nlriCount b) := by
  have hw : wdNonEmpty b.wd = !b.wdList.isEmpty := by
    unfold wdNonEmpty B.wdList; cases b.wd <;> rfl
  have ha : annNonEmpty b.ann = !b.annList.isEmpty := by
    unfold annNonEmpty B.annList; rcases b.ann with _ | ⟨l, nh⟩ <;> rfl
  rw [nlriCount_eq]
  unfold intoRemainder
  rw [hw, ha]
  cases b.wdList <;> cases b.annList <;> simp <;> omega

theorem intoRemainder_some {b x : B N} (h : intoRemainder b = some x) : x = b ∧ 1 ≤ nlriCount b := by
  rcases intoRemainder_cases b with ⟨hn, _⟩ | ⟨hs, hpos⟩
  · rw [hn] at h; cases h
  · rw [hs] at h; cases h; exact ⟨rfl, hpos⟩

theorem rem_intoRemainder (b : B N) :
    remWd (intoRemainder b) = b.wdList ∧ remAnn (intoRemainder b) = b.annList := by
  rcases intoRemainder_cases b with ⟨hn, hw, ha⟩ | ⟨hs, _⟩
  · rw [hn, hw, ha]; exact ⟨rfl, rfl⟩
  · rw [hs]; exact ⟨rfl, rfl⟩

/-- What one `take_message` step does with the builder's content: `bb` is the
builder whose `into_message` is returned, `rem` the remainder. -/
structure Batch (b bb : B N) (rem : Option (B N)) : Prop where
  wd : bb.wdList ++ remWd rem = b.wdList
  ann : bb.annList ++ remAnn rem = b.annList
  nonempty : 1 ≤ nlriCount b → 1 ≤ nlriCount bb
  rem : ∀ b', rem = some b' → b'.attrs = b.attrs ∧ nhOfAnn b'.ann = nhOfAnn b.ann ∧
    nlriCount b' < nlriCount b ∧ 1 ≤ nlriCount b'
  attrs : bb.annList ≠ [] → bb.attrs = b.attrs ∧ nhOfAnn bb.ann = nhOfAnn b.ann

/-- a builder cut into a non-empty batch `bb` and a rest `b'`: `into_remainder` of the rest is the
remainder of the step -/
theorem Batch.split {b bb b' : B N} (hwd : bb.wdList ++ b'.wdList = b.wdList)
    (hann : bb.annList ++ b'.annList = b.annList) (hne : 1 ≤ nlriCount bb)
    (hattrs : b'.attrs = b.attrs) (hnh : nhOfAnn b'.ann = nhOfAnn b.ann)
    (hbb : bb.annList ≠ [] → bb.attrs = b.attrs ∧ nhOfAnn bb.ann = nhOfAnn b.ann) :
    Batch b bb (intoRemainder b') where
  wd := by rw [(rem_intoRemainder b').1, hwd]
  ann := by rw [(rem_intoRemainder b').2, hann]
  nonempty _ := hne
  attrs := hbb
  rem x hx := by
    obtain ⟨rfl, hpos⟩ := intoRemainder_some hx
    refine ⟨hattrs, hnh, ?_, hpos⟩
    have h1 := congrArg List.length hwd
    have h2 := congrArg List.length hann
    rw [List.length_append] at h1 h2
    simp only [nlriCount_eq] at hne ⊢
    omega

theorem take_ne_nil {l : List N} {k : Nat} (hk1 : 1 ≤ k) (hk2 : k ≤ l.length) : l.take k ≠ [] := by
  intro h
  have := congrArg List.length h
  rw [List.length_take, List.length_nil] at this
  omega

/-- the rest of a split list as `take_message` stores it -/
theorem getD_ifEmpty (d : List N) : (if d.isEmpty then none else some d).getD [] = d := by
  cases d <;> rfl

theorem ifEmpty_ne (d : List N) : (if d.isEmpty then none else some d) ≠ some [] := by
  cases d <;> simp

theorem largerThan_false {b : B N} {max : Nat} (h : largerThan sz b max = false) :
    calcPduLen sz b ≤ max := by
  simp only [largerThan, Bool.or_eq_false_iff, decide_eq_false_iff_not] at h
  omega

theorem largerThan_true {b : B N} {max : Nat} (h : largerThan sz b max = true)
    (ha : b.annList = []) : calcPduLen sz b > max := by
  unfold B.annList at ha
  unfold largerThan at h
  rcases hb : b.ann with _ | ⟨l, nh⟩ <;> simp only [hb] at h ha
  · simpa using h
  · subst ha; simpa using h

/-- `take_message` by cases: the builder fits in one PDU; or it holds
withdrawals, of which a batch of `k` is sent without attributes; or (no
withdrawals) announcements, of which `k` are sent with all attributes; or there
is nothing to split.  `k` is a split point: at least one NLRI, and within the
threshold unless it is a single forced NLRI. -/
theorem takeMessage_cases (b : B N) :
    (calcPduLen sz b ≤ MAX_PDU ∧ takeMessage sz b = (intoMessage sz b, none)) ∨
    (∃ l k, b.wd = some l ∧ 1 ≤ k ∧ k ≤ l.length ∧ (sumSz sz (l.take k) ≤ BATCH ∨ k = 1) ∧
      takeMessage sz b = (intoMessage sz { wd := some (l.take k), ann := none, attrs := [] },
        intoRemainder { b with wd := if (l.drop k).isEmpty then none else some (l.drop k) })) ∨
    (∃ l nh k, b.wdList = [] ∧ b.ann = some (l, nh) ∧ 1 ≤ k ∧ k ≤ l.length ∧
      (sumSz sz (l.take k) ≤ MAX_PDU - ((16 + 2 + 1 + 2 + 2) + 8 + nh.composeLen + attrsLen b.attrs)
        ∨ k = 1) ∧
      takeMessage sz b = (intoMessage sz { wd := none, ann := some (l.take k, nh), attrs := b.attrs },
        intoRemainder { b with ann := some (l.drop k, nh) })) ∨
    (b.wdList = [] ∧ b.annList = [] ∧ calcPduLen sz b > MAX_PDU ∧
      takeMessage sz b = (.err .tooLarge, none)) := by
  fun_cases takeMessage sz b
  case case1 h => exact .inl ⟨largerThan_false sz (by simpa using h), rfl⟩
  case case2 w ws hw _ _ _ _ _ =>
    obtain ⟨h1, h2, h3⟩ := splitPoint_spec sz BATCH (List.cons_ne_nil w ws)
    exact .inr (.inl ⟨_, _, hw, h1, h2, h3, rfl⟩)
  case case3 a as nh ha _ limit _ _ _ hwd =>
    obtain ⟨h1, h2, h3⟩ := splitPoint_spec sz limit (List.cons_ne_nil a as)
    exact .inr (.inr (.inl ⟨_, _, _, wdList_eq_nil hwd, ha, h1, h2, h3, rfl⟩))
  case case4 h hwd hann =>
    have hal := annList_eq_nil hann
    exact .inr (.inr (.inr ⟨wdList_eq_nil hwd, hal, largerThan_true sz (by simpa using h) hal, rfl⟩))

theorem takeMessage_spec (b : B N) :
    (∃ bb rem, takeMessage sz b = (intoMessage sz bb, rem) ∧ Batch b bb rem ∧
      (bb.attrs = b.attrs ∨ bb.attrs = [])) ∨
    takeMessage sz b = (.err .tooLarge, none) := by
  rcases takeMessage_cases sz b with ⟨_, ht⟩ | ⟨l, k, hw, hk1, hk2, _, ht⟩ |
      ⟨l, nh, k, hwl, ha, hk1, hk2, _, ht⟩ | ⟨_, _, _, ht⟩
  · exact .inl ⟨b, none, ht, ⟨List.append_nil _, List.append_nil _, id, fun _ h => (by cases h), fun _ => ⟨rfl, rfl⟩⟩,
      .inl rfl⟩
  · refine .inl ⟨_, _, ht, Batch.split ?_ rfl ?_ rfl rfl (fun h => absurd rfl h), .inr rfl⟩
    · simp only [B.wdList, getD_ifEmpty, hw, Option.getD_some, List.take_append_drop]
    · rw [nlriCount_eq]; simp only [B.wdList, B.annList, Option.getD_some, List.length_take]; omega
  · refine .inl ⟨_, _, ht, Batch.split rfl ?_ ?_ rfl (by rw [ha]; rfl)
      (fun _ => ⟨rfl, by rw [ha]; rfl⟩), .inl rfl⟩
    · simp only [B.annList, ha, List.take_append_drop]
    · rw [nlriCount_eq]; simp only [B.wdList, B.annList, Option.getD_none, List.length_nil, List.length_take]; omega
  · exact .inr ht

theorem takeMessage_attrs {N : Type} (sz : N → Nat) (b : B N) {m : Msg N} {rem : Option (B N)}
    (h : takeMessage sz b = (.ok m, rem)) : m.attrs = b.attrs ∨ m.attrs = [] := by
  rcases takeMessage_spec sz b with ⟨bb, rem', ht, _, hat⟩ | ht <;> rw [ht] at h
  · injection h with h1 _
    obtain ⟨_, _, rfl⟩ := intoMessage_ok sz h1
    exact hat
  · cases h

end Rc.Builder
