/- C15: what `Message::from_octets` accepts, as conditions on the buffer; the reference encodings of
well-formed BMP messages pass the `check` functions. -/
import Rc.Lemmas.BmpBytes

namespace Rc.Bmp
open Rc

theorem fromOctets_np (d : Deps) (hd : d.Total) (bs : Bytes) : fromOctets d bs ≠ .panic := by
  unfold fromOctets
  split
  · nofun
  · rw [idx_ok (by omega)]
    dsimp only
    split
    · nofun
    · split
      · nofun
      · nofun
      · exact absurd ‹_› (checkKind_np d hd _ bs)

theorem fromOctets_ok {d : Deps} {bs : Bytes} {k : MsgKind} :
    fromOctets d bs = .ok k ↔
      6 ≤ bs.length ∧ kindOf (beAt bs 5 1) = some k ∧ checkKind d k bs = .ok () := by
  unfold fromOctets
  by_cases hl : bs.length < 6
  · simp [hl]; omega
  · rw [if_neg hl, idx_ok (by omega)]
    dsimp only
    cases hk : kindOf (beAt bs 5 1) with
    | none => simp
    | some k' =>
      dsimp only
      constructor
      · intro h
        cases hc : checkKind d k' bs <;> rw [hc] at h <;> cases h
        exact ⟨Nat.le_of_not_lt hl, rfl, hc⟩
      · rintro ⟨-, hk', hc⟩
        cases hk'
        rw [hc]

theorem peerDownCheck_ok {d : Deps} {bs : Bytes} :
    peerDownCheck d bs = .ok () ↔
      bothCheck bs = .ok 48 ∧ 49 ≤ bs.length ∧
        (if beAt bs 48 1 = 1 ∨ beAt bs 48 1 = 3 then
          bs.length ≤ 49 ∨ ∃ k, d.notifParse (bs.drop 49) = .ok k
        else beAt bs 48 1 = 2 → 51 ≤ bs.length) := by
  refine bothCheck_then_ok.trans (and_congr_right fun _ => (read_then_ok (n := 1)).trans (and_congr_right fun _ => ?_))
  split
  · split
    · simp [*]
    · refine chain_ok.trans ⟨fun ⟨k, hk, _⟩ => .inr ⟨k, hk⟩, fun h => ?_⟩
      obtain ⟨k, hk⟩ := h.resolve_left (by omega)
      exact ⟨k, hk, rfl⟩
  · split
    · exact cAdvance_then_ok.trans (by simp [*])
    · simp [*]

theorem peerUpCheck_ok {d : Deps} {bs : Bytes} :
    peerUpCheck d bs = .ok () ↔
      bothCheck bs = .ok 48 ∧ 68 ≤ bs.length ∧
        ∃ n1, d.openParse (bs.drop 68) = .ok n1 ∧
          ∃ n2, d.openParse (bs.drop (68 + n1)) = .ok n2 ∧ tlvCheck bs (68 + n1 + n2) = .ok () :=
  bothCheck_then_ok.trans (and_congr_right fun _ => cAdvance_then_ok.trans (and_congr_right fun _ =>
    chain_ok.trans (exists_congr fun _ => and_congr_right fun _ => chain_ok)))

/-- what `PeerUpNotification::check` validated is what the accessors parse again -/
theorem peerUp_of_check {d : Deps} (hd : d.Total) {bs : Bytes} (h : peerUpCheck d bs = .ok ()) :
    68 ≤ bs.length ∧ ∃ n1 n2, d.openParse (bs.drop 68) = .ok n1 ∧ d.openParse (bs.drop (68 + n1)) = .ok n2 ∧
      68 + n1 + n2 ≤ bs.length ∧ tlvCheck bs (68 + n1 + n2) = .ok () ∧
      openSent d bs = .ok ((bs.drop 68).take n1) ∧ openRcvd d bs = .ok ((bs.drop (68 + n1)).take n2) ∧
      peerUpTlvs d bs = infoTlvIter bs (bs.length + 1) (68 + n1 + n2) := by
  obtain ⟨-, h68, n1, h1, n2, h2, ht⟩ := peerUpCheck_ok.1 h
  have hle1 := hd.open_le _ _ h1
  have hle2 := hd.open_le _ _ h2
  rw [List.length_drop] at hle1 hle2
  have hs : openSentLen d bs = .ok n1 := by rw [openSentLen, COFF, if_pos h68, h1]
  have hsent : openSent d bs = .ok ((bs.drop 68).take n1) := by rw [openSent, hs, COFF]
  have hrl : openRcvdLen d bs = .ok (68 + n1, n2) := by
    rw [openRcvdLen, hsent]
    dsimp only
    rw [List.length_take, List.length_drop, Nat.min_eq_left hle1, COFF, if_pos (by omega), h2]
  refine ⟨h68, n1, n2, h1, h2, by omega, ht, hsent, by rw [openRcvd, hrl], ?_⟩
  rw [peerUpTlvs, hs]
  dsimp only
  rw [COFF, h2]
  dsimp only
  rw [sliceFrom_ok (by omega)]

theorem encCommon_length (len typ : Nat) : (encCommon len typ).length = 6 := rfl

theorem encCommon_fields (len typ : Nat) (rest : Bytes) :
    Field (encCommon len typ ++ rest) 0 [3] ∧ Field (encCommon len typ ++ rest) 1 (be32 len) ∧
      Field (encCommon len typ ++ rest) 5 [UInt8.ofNat typ] :=
  have F : Field (encCommon len typ ++ rest) 0 ([3] ++ be32 len ++ [UInt8.ofNat typ]) := (Field.refl _).left
  ⟨F.left.left, F.left.right (n := 1) rfl, F.right (n := 5) rfl⟩

theorem commonCheck_enc (len typ : Nat) (ht : typ ≤ 6) (rest : Bytes) :
    commonCheck (encCommon len typ ++ rest) = .ok 6 := by
  obtain ⟨fv, -, ft⟩ := encCommon_fields len typ rest
  refine commonCheck_ok.2 ⟨rfl, by rw [List.length_append, encCommon_length]; omega, fv.beAt (n := 1) rfl, ?_⟩
  rw [ft.beAt (n := 1) rfl, beNat_byte]
  omega

theorem pphCheck_enc (hdr : Bytes) (p : Pph) (hp : WfPph p) (hpt : p.peerType ≤ 3) (rest : Bytes) :
    pphCheck (hdr ++ (encPph p ++ rest)) hdr.length = .ok (hdr.length + 42) := by
  have F : Field (hdr ++ (encPph p ++ rest)) hdr.length (encPph p) := .mid rfl rest
  refine pphCheck_ok.2 ⟨rfl, by have := F.le; rwa [encPph_length p hp] at this, ?_⟩
  rw [(F.first (v := UInt8.ofNat p.peerType)).beAt (n := 1) rfl, beNat_byte]
  omega

theorem bothCheck_enc (len typ : Nat) (ht : typ ≤ 6) (p : Pph) (hp : WfPph p) (hpt : p.peerType ≤ 3)
    (rest : Bytes) : bothCheck (encCommon len typ ++ (encPph p ++ rest)) = .ok 48 := by
  unfold bothCheck
  rw [commonCheck_enc len typ ht]
  exact pphCheck_enc (encCommon len typ) p hp hpt rest

/-- `x` is encoded as two octets of type, a two-octet length and that many octets of value -/
def Framed {α} (enc : α → Bytes) (x : α) : Prop :=
  ∃ hd v : Bytes, enc x = hd ++ (be16 v.length ++ v) ∧ hd.length = 2 ∧ v.length < 65536

/-- `f`: fuel, one unit per frame and one for the end test -/
theorem tlvLoop_field {α} {bs : Bytes} {p f : Nat} (enc : α → Bytes) (xs : List α)
    (h : ∀ x ∈ xs, Framed enc x) (F : Field bs p (xs.flatMap enc))
    (hend : p + (xs.flatMap enc).length = bs.length) (hf : xs.length < f) : tlvLoop bs f p = .ok () := by
  induction xs generalizing p f with
  | nil =>
    cases f with
    | zero => exact absurd hf (Nat.lt_irrefl 0)
    | succ f => exact tlvLoop_succ_ok.2 (.inl (by simp at hend; omega))
  | cons x xs ih =>
    cases f with
    | zero => exact absurd hf (Nat.not_lt_zero _)
    | succ f =>
      obtain ⟨hd, v, he, h2, hv⟩ := h x (List.mem_cons_self ..)
      rw [List.flatMap_cons, he] at F hend
      obtain ⟨hl, fv, ft, hlen⟩ := F.frame h2 hv
      rw [tlvLoop_succ_ok, hl]
      exact .inr ⟨fv.le, ih (fun y hy => h y (List.mem_cons_of_mem _ hy)) ft (by omega)
        (Nat.lt_of_succ_lt_succ hf)⟩

theorem tlvLoop_enc {α} (enc : α → Bytes) (xs : List α) (h : ∀ x ∈ xs, Framed enc x) (pre : Bytes)
    (f : Nat) (hf : xs.length < f) : tlvLoop (pre ++ xs.flatMap enc) f pre.length = .ok () :=
  tlvLoop_field enc xs h (.last rfl) (List.length_append ..).symm hf

theorem tlvCheck_field {α} {bs : Bytes} {p : Nat} (enc : α → Bytes) (xs : List α)
    (h : ∀ x ∈ xs, Framed enc x) (F : Field bs p (xs.flatMap enc))
    (hend : p + (xs.flatMap enc).length = bs.length) : tlvCheck bs p = .ok () := by
  refine tlvLoop_field enc xs h F hend ?_
  -- a frame has at least four octets, so there are no more frames than octets
  have : xs.length ≤ (xs.flatMap enc).length := by
    clear F hend
    induction xs with
    | nil => exact Nat.le_refl _
    | cons x xs ih =>
      obtain ⟨hd, v, he, h2, -⟩ := h x (List.mem_cons_self ..)
      have := ih fun y hy => h y (List.mem_cons_of_mem _ hy)
      simp only [List.flatMap_cons, he, List.length_append, List.length_cons, h2]
      omega
  omega

theorem statsLoop_field {α} {bs : Bytes} {p : Nat} (enc : α → Bytes) (xs : List α)
    (h : ∀ x ∈ xs, Framed enc x) (F : Field bs p (xs.flatMap enc)) : statsLoop bs xs.length p = .ok () := by
  induction xs generalizing p with
  | nil => rfl
  | cons x xs ih =>
    obtain ⟨hd, v, he, h2, hv⟩ := h x (List.mem_cons_self ..)
    rw [List.flatMap_cons, he] at F
    obtain ⟨hl, fv, ft, -⟩ := F.frame h2 hv
    rw [List.length_cons, statsLoop_succ_ok, hl]
    exact ⟨fv.le, ih (fun y hy => h y (List.mem_cons_of_mem _ hy)) ft⟩

theorem statsLoop_enc {α} (enc : α → Bytes) (xs : List α) (h : ∀ x ∈ xs, Framed enc x) (pre rest : Bytes) :
    statsLoop (pre ++ (xs.flatMap enc ++ rest)) xs.length pre.length = .ok () :=
  statsLoop_field enc xs h (.mid rfl rest)

theorem framed_tlv (t : Nat × Nat × Bytes) (h : WfTlv t) : Framed encTlv t :=
  ⟨be16 t.1, t.2.2, List.append_assoc .., rfl, h.2.2⟩

theorem framed_term (t : TermInfo) (h : WfTerm t) : Framed encTerm t :=
  let ⟨typ, v, he, _, hv, _⟩ := termItem_enc t h
  ⟨be16 typ, v, he, rfl, hv⟩

theorem framed_stat (s : Stat) (h : WfStat s) : Framed encStat s := by
  cases s with
  | u32 t v => exact ⟨be16 t, be32 v, by simp [encStat], by simp, by simp⟩
  | u64 t v => exact ⟨be16 t, be64 v, by simp [encStat, be64], by simp, by simp [be64]⟩
  | afiSafi t a s v =>
    exact ⟨be16 t, be16 a ++ [UInt8.ofNat s] ++ be64 v, by simp [encStat, be64], by simp, by simp [be64]⟩
  | unimplemented t l =>
    exact ⟨be16 t, List.replicate l 0, by simp [encStat], by simp, by simpa using h.2.1⟩

end Rc.Bmp
