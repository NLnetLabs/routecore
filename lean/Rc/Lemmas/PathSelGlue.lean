/-
Lemmas for C10's glue theorems (Rc/Thm/C10.lean, `route_of_update_spec` ...):

* the bridge between the two models of an AS path attribute value - C17's
  `PaMap.parseSegs / parseSegs2 / toHops / composeHops` (octet strings) and C13's
  `AsPath.check / segments / hops` (numbers): they accept the same octets and
  denote the same hops;
* what C04's `Attr.parseValue` reads from the value a typed attribute of the map
  holds, for the six attribute types path selection looks at.
-/
import Rc.Model.PathSelGlue
import Rc.Lemmas.PaMapPath
import Rc.Lemmas.AsPath
import Rc.Thm.C17

namespace Rc.PathSelGlue
open Rc Rc.PaMap

/-- the AS number four octets stand for -/
def nat4 : Bytes → Nat
  | [a, b, c, d] => a.toNat * 16777216 + b.toNat * 65536 + c.toNat * 256 + d.toNat
  | _ => 0

theorem takeN_none_iff {k : Nat} {bs : Bytes} : takeN k bs = none ↔ bs.length < k := by
  unfold takeN; split <;> simp <;> omega

theorem takeAsns_view (n : Nat) (bs : Bytes) (l : List Bytes) (r : Bytes) (h : takeAsns n bs = some (l, r)) :
    ∃ v, takeN (n * 4) bs = some (v, r) ∧ AsPath.dec32 v = l.map nat4 := by
  fun_induction takeAsns n bs generalizing l with
  | case1 bs =>
    cases h
    exact ⟨[], by simp [takeN], rfl⟩
  | case2 n a b c d t l' r' hr ih =>
    cases h
    obtain ⟨v', hv, hd⟩ := ih l' hr
    obtain ⟨hl, ht⟩ := takeN_length hv
    refine ⟨a :: b :: c :: d :: v', ?_, by simp [AsPath.dec32, hd, nat4]⟩
    have e : (n + 1) * 4 = (a :: b :: c :: d :: v').length := by simp [hl]; omega
    rw [e, ht]
    exact takeN_append (a :: b :: c :: d :: v') r
  | case3 => cases h
  | case4 => cases h

theorem takeAsns_none (n : Nat) (bs : Bytes) (h : takeAsns n bs = none) : takeN (n * 4) bs = none := by
  rw [takeN_none_iff]
  fun_induction takeAsns n bs with
  | case1 => cases h
  | case2 => cases h
  | case3 n a b c d t hr ih =>
    have := ih hr
    simp only [List.length_cons]; omega
  | case4 n bs hne =>
    match bs, hne with
    | a :: b :: c :: d :: r, hne => exact (hne a b c d r rfl).elim
    | [], _ | [_], _ | [_, _], _ | [_, _, _], _ => simp only [List.length_cons, List.length_nil]; omega

theorem takeAsns2_view (n : Nat) (bs : Bytes) (l : List Bytes) (r : Bytes) (h : takeAsns2 n bs = some (l, r)) :
    ∃ v, takeN (n * 2) bs = some (v, r) ∧ AsPath.dec16 v = l.map nat4 := by
  fun_induction takeAsns2 n bs generalizing l with
  | case1 bs =>
    cases h
    exact ⟨[], by simp [takeN], rfl⟩
  | case2 n a b t l' r' hr ih =>
    cases h
    obtain ⟨v', hv, hd⟩ := ih l' hr
    obtain ⟨hl, ht⟩ := takeN_length hv
    refine ⟨a :: b :: v', ?_, by simp [AsPath.dec16, hd, nat4]⟩
    have e : (n + 1) * 2 = (a :: b :: v').length := by simp [hl]; omega
    rw [e, ht]
    exact takeN_append (a :: b :: v') r
  | case3 => cases h
  | case4 => cases h

theorem takeAsns2_none (n : Nat) (bs : Bytes) (h : takeAsns2 n bs = none) : takeN (n * 2) bs = none := by
  rw [takeN_none_iff]
  fun_induction takeAsns2 n bs with
  | case1 => cases h
  | case2 => cases h
  | case3 n a b t hr ih =>
    have := ih hr
    simp only [List.length_cons]; omega
  | case4 n bs hne =>
    match bs, hne with
    | a :: b :: r, hne => exact (hne a b r rfl).elim
    | [], _ | [_], _ => simp only [List.length_cons, List.length_nil]; omega

/-- a segment of C17's model as C13's model holds it -/
def segOf (four : Bool) (s : SegB) : AsPath.Seg := ⟨s.1.toNat, four, s.2.map nat4⟩

theorem segTypeOk_iff (t : UInt8) : AsPath.segTypeOk t = true ↔ (1 ≤ t.toNat ∧ t.toNat ≤ 4) := by
  simp [AsPath.segTypeOk]

/-- either parser of C17's model: `take` splits off the AS numbers of a segment -/
theorem bridgeF (four : Bool) (take : Nat → Bytes → Option (List Bytes × Bytes))
    (parse : Nat → Bytes → Option (List SegB))
    (hview : ∀ n bs l r, take n bs = some (l, r) →
      ∃ v, takeN (n * AsPath.asnSize four) bs = some (v, r) ∧ AsPath.decAsns four v = l.map nat4)
    (hnone : ∀ n bs, take n bs = none → takeN (n * AsPath.asnSize four) bs = none)
    (hnil : ∀ fuel, parse fuel [] = some []) (hone : ∀ fuel t, parse (fuel + 1) [t] = none)
    (hcons : ∀ fuel t n r, parse (fuel + 1) (t :: n :: r) =
      if 1 ≤ t.toNat ∧ t.toNat ≤ 4 then
        match take n.toNat r with
        | some (asns, r') =>
          match parse fuel r' with
          | some segs => some ((t, asns) :: segs)
          | none => none
        | none => none
      else none) :
    ∀ (fuel : Nat) (bs : Bytes), bs.length ≤ fuel →
    (∀ ss, parse fuel bs = some ss →
      AsPath.checkF four fuel bs = .ok () ∧ AsPath.segmentsF four fuel bs = .ok (ss.map (segOf four))) ∧
    (parse fuel bs = none → AsPath.checkF four fuel bs = .err)
  | fuel, [], _ => by
    cases fuel <;> simp [hnil, AsPath.checkF, AsPath.segmentsF]
  | 0, _ :: _, hl => by simp at hl
  | fuel + 1, [t], _ => by
    simp only [hone, AsPath.checkF]
    refine ⟨fun ss h => (by cases h), fun _ => ?_⟩
    split <;> rfl
  | fuel + 1, t :: n :: r, hl => by
    simp only [hcons, AsPath.checkF, AsPath.segmentsF]
    by_cases ht : 1 ≤ t.toNat ∧ t.toNat ≤ 4
    · have hok : AsPath.segTypeOk t = true := (segTypeOk_iff t).mpr ht
      simp only [ht, and_self, if_true, hok, Bool.not_true, Bool.false_eq_true, if_false]
      cases ha : take n.toNat r with
      | none =>
        simp only [hnone _ _ ha]
        exact ⟨fun ss h => (by cases h), fun _ => trivial⟩
      | some p =>
        obtain ⟨asns, r'⟩ := p
        obtain ⟨v, hv, hd⟩ := hview _ _ _ _ ha
        obtain ⟨_, hrr⟩ := takeN_length hv
        have hr' : r'.length ≤ fuel := by
          have : r.length = v.length + r'.length := by rw [hrr]; simp
          simp at hl; omega
        obtain ⟨ih1, ih2⟩ := bridgeF four take parse hview hnone hnil hone hcons fuel r' hr'
        simp only [hv]
        cases hp : parse fuel r' with
        | none =>
          simp only [ih2 hp]
          exact ⟨fun ss h => (by cases h), fun _ => trivial⟩
        | some segs =>
          obtain ⟨c1, c2⟩ := ih1 segs hp
          refine ⟨fun ss h => ?_, fun h => by cases h⟩
          simp only [Option.some.injEq] at h
          subst h
          simp [c1, c2, segOf, hd]
    · have hok : AsPath.segTypeOk t = false := by
        cases h : AsPath.segTypeOk t
        · rfl
        · exact absurd ((segTypeOk_iff t).mp h) ht
      simp only [ht, if_false, hok, Bool.not_false, if_true]
      exact ⟨fun ss h => (by cases h), fun _ => trivial⟩

theorem bridge4 : ∀ (fuel : Nat) (bs : Bytes), bs.length ≤ fuel →
    (∀ ss, parseSegs fuel bs = some ss →
      AsPath.checkF true fuel bs = .ok () ∧ AsPath.segmentsF true fuel bs = .ok (ss.map (segOf true))) ∧
    (parseSegs fuel bs = none → AsPath.checkF true fuel bs = .err) :=
  bridgeF true takeAsns parseSegs takeAsns_view takeAsns_none (fun fuel => by cases fuel <;> rfl)
    (fun _ _ => rfl) (fun _ _ _ _ => rfl)

theorem bridge2 : ∀ (fuel : Nat) (bs : Bytes), bs.length ≤ fuel →
    (∀ ss, parseSegs2 fuel bs = some ss →
      AsPath.checkF false fuel bs = .ok () ∧ AsPath.segmentsF false fuel bs = .ok (ss.map (segOf false))) ∧
    (parseSegs2 fuel bs = none → AsPath.checkF false fuel bs = .err) :=
  bridgeF false takeAsns2 parseSegs2 takeAsns2_view takeAsns2_none (fun fuel => by cases fuel <;> rfl)
    (fun _ _ => rfl) (fun _ _ _ _ => rfl)

/-- the width-`four` parser of C17's model -/
def parseSegsW (four : Bool) (v : Bytes) : Option (List SegB) :=
  if four then parseSegs v.length v else parseSegs2 v.length v

theorem bridge (four : Bool) (v : Bytes) :
    (∀ ss, parseSegsW four v = some ss →
      AsPath.check four v = .ok () ∧ AsPath.segments four v = .ok (ss.map (segOf four))) ∧
    (parseSegsW four v = none → AsPath.check four v = .err) := by
  cases four
  · simpa [parseSegsW, AsPath.check, AsPath.segments] using bridge2 v.length v (Nat.le_refl _)
  · simpa [parseSegsW, AsPath.check, AsPath.segments] using bridge4 v.length v (Nat.le_refl _)

/-- a hop of C17's model as path selection sees it -/
def selHopB : PaMap.Hop → PathSel.Hop
  | .asn a => .asn (nat4 a)
  | .seg t asns => .seg t.toNat (asns.map nat4)

theorem hops_same (four : Bool) : ∀ (ss : List SegB),
    (AsPath.hopsOfSegs (ss.map (segOf four))).map selHop = (toHops ss).map selHopB
  | [] => rfl
  | (t, asns) :: r => by
    rw [List.map_cons, AsPath.hopsOfSegs_cons, List.map_append, hops_same four r, toHops, AsPath.hopsOfSeg]
    have e : ((segOf four (t, asns)).ty = 2 ∧ (segOf four (t, asns)).asns ≠ []) ↔ (t = 2 ∧ asns ≠ []) :=
      and_congr (UInt8.toNat_inj (b := 2)) (not_congr List.map_eq_nil_iff)
    by_cases hc : t = 2 ∧ asns ≠ []
    · rw [if_pos hc, if_pos (e.mpr hc), List.map_append, List.map_map, List.map_map]
      exact congrArg (· ++ _) List.map_map
    · rw [if_neg hc, if_neg (mt e.mp hc)]
      rfl

theorem typedValueW_path (four : Bool) (v : Bytes) :
    typedValueW four 2 v = (parseSegsW four v).map fun ss => composeHops (toHops ss) [] := by
  cases four
  · simp only [typedValueW, parseSegsW, normAsPath2, Bool.false_eq_true, if_false, if_true]
    cases parseSegs2 v.length v <;> rfl
  · simp only [typedValueW, typedValue, parseSegsW, normAsPath, if_true]
    simp
    cases parseSegs v.length v <;> rfl

theorem parseSegsW_ok (four : Bool) (v : Bytes) (ss : List SegB) (h : parseSegsW four v = some ss) :
    ∀ s ∈ ss, SegOk s := by
  cases four
  · exact parseSegs2_ok _ _ _ (by simpa [parseSegsW] using h)
  · exact parseSegs_ok _ _ _ (by simpa [parseSegsW] using h)

theorem toHopPath_of_segs (four : Bool) (v : Bytes) (ss : List SegB) (h : parseSegsW four v = some ss) :
    AsPath.toHopPath four v = .ok (AsPath.hopsOfSegs (ss.map (segOf four))) := by
  obtain ⟨c1, c2⟩ := (bridge four v).1 ss h
  simp [AsPath.toHopPath, AsPath.hops, c1, c2]

/-- the normal form `compose_value` writes, as segments -/
theorem norm_segs (ss : List SegB) (hs : ∀ s ∈ ss, SegOk s) :
    ∃ S, parseSegsW true (composeHops (toHops ss) []) = some S ∧ toHops S = toHops ss := by
  obtain ⟨hp, hh⟩ := parseSegs_composeHops ss hs
  exact ⟨_, hp, hh⟩

private theorem parsePath_eq (four : Bool) (v : Bytes) : Attr.parsePath four v = AsPath.toHopPath four v := by
  unfold Attr.parsePath AsPath.toHopPath
  cases AsPath.check four v <;> rfl

/-- **the AS_PATH glue**: the value a typed AS_PATH of a map built from an UPDATE holds
(`typedValueW`: read in the session's width, held four octets wide in `to_as_path`'s normal
form) is read back by C04's `parse` to a hop path with the hops C13's `toHopPath` reads from
the octets on the wire in the session's width - up to the storage width of segment hops,
which path selection does not look at. -/
theorem path_glue (four : Bool) (v w : Bytes) (h : typedValueW four 2 v = some w) :
    ∃ h1 h2, AsPath.toHopPath four v = .ok h1 ∧ Attr.parseValue 2 true w = .ok (.asPath h2) ∧
      h2.map selHop = h1.map selHop := by
  rw [typedValueW_path] at h
  cases hp : parseSegsW four v with
  | none => simp [hp] at h
  | some ss =>
    simp only [hp, Option.map_some, Option.some.injEq] at h
    subst h
    obtain ⟨S, hS, hH⟩ := norm_segs ss (parseSegsW_ok four v ss hp)
    have t1 := toHopPath_of_segs four v ss hp
    have t2 := toHopPath_of_segs true _ S hS
    refine ⟨_, AsPath.hopsOfSegs (S.map (segOf true)), t1, ?_, ?_⟩
    · simp only [Attr.parseValue, parsePath_eq, t2]
      simp
    · rw [hops_same, hops_same, hH]

theorem path_glue_none (four : Bool) (v : Bytes) (h : typedValueW four 2 v = none) :
    AsPath.toHopPath four v = .err := by
  rw [typedValueW_path] at h
  cases hp : parseSegsW four v with
  | none => simp [AsPath.toHopPath, (bridge four v).2 hp]
  | some ss => simp [hp] at h

theorem firstWire_spec {c : Nat} : ∀ {ws : List Wire} {w : Wire}, firstWire c ws = some w → w ∈ ws ∧ w.code = c := by
  intro ws w h
  fun_induction firstWire c ws with
  | case1 => cases h
  | case2 x xs hx => cases h; exact ⟨List.mem_cons_self, hx⟩
  | case3 x xs _ ih => exact ⟨List.mem_cons_of_mem _ (ih h).1, (ih h).2⟩

private theorem not_mp_of_typeFlags {c f : Nat} (hf : typeFlags c = some f) : ¬ (c = 14 ∨ c = 15) := by
  rintro (rfl | rfl) <;> simp [typeFlags] at hf

theorem get_fromUpdate (u : Update) (c f : Nat) (hf : typeFlags c = some f) :
    PaMap.get c (fromUpdate u) =
      match firstWire c u.attrs with
      | none => none
      | some w => (typedValueW w.four c w.value).map fun v => ⟨.typed, c, f, v⟩ := by
  rw [PaMap.get, Rc.Thm.C17.from_update_lookup, if_neg (not_mp_of_typeFlags hf)]
  cases hw : firstWire c u.attrs with
  | none => rfl
  | some w =>
    have hcode := (firstWire_spec hw).2
    simp only [Option.map_some, Option.bind_some, ownedOf, hcode, hf]
    cases typedValueW w.four c w.value <;> simp [fromAttr]

theorem lookup_isSome_fromUpdate (u : Update) (c f : Nat) (hf : typeFlags c = some f) :
    (lookup c (fromUpdate u)).isSome = (firstWire c u.attrs).isSome := by
  rw [Rc.Thm.C17.from_update_lookup, if_neg (not_mp_of_typeFlags hf), Option.isSome_map]

/-- `ClusterIds::parse` reads a whole number of four-octet ids -/
theorem dec32O_len : ∀ (k : Nat) (v : Bytes), v.length = 4 * k → ∃ ids, Attr.dec32O v = .ok ids ∧ ids.length = k
  | 0, v, h => by
    have : v = [] := List.eq_nil_of_length_eq_zero (by omega)
    subst this; exact ⟨[], rfl, rfl⟩
  | k + 1, v, h => by
    match v, h with
    | a :: b :: c :: d :: r, h =>
      obtain ⟨ids, h1, h2⟩ := dec32O_len k r (by simp at h; omega)
      exact ⟨(a.toNat * 16777216 + b.toNat * 65536 + c.toNat * 256 + d.toNat) :: ids, by simp [Attr.dec32O, h1], by simp [h2]⟩
    | [], h => simp at h
    | [_], h => simp at h; omega
    | [_, _], h => simp at h; omega
    | [_, _, _], h => simp at h; omega

theorem typedValueW_len1 (four : Bool) (v : Bytes) :
    typedValueW four 1 v = if v.length = 1 then some v else none := by
  cases four <;> simp [typedValueW, typedValue]

theorem typedValueW_len4 (four : Bool) (c : Nat) (hc : c = 4 ∨ c = 5 ∨ c = 9) (v : Bytes) :
    typedValueW four c v = if v.length = 4 then some v else none := by
  rcases hc with rfl | rfl | rfl <;> cases four <;> simp [typedValueW, typedValue]

theorem typedValueW_cl (four : Bool) (v : Bytes) :
    typedValueW four 10 v = if v.length % 4 = 0 then some v else none := by
  cases four <;> simp [typedValueW, typedValue]

theorem origin_fromUpdate (u : Update) :
    getOrigin (fromUpdate u) = .ok (wireOriginSlot u.attrs).get ∧
    slotOf 1 (fromUpdate u) (wireOriginSlot u.attrs).get = wireOriginSlot u.attrs := by
  have hl := lookup_isSome_fromUpdate u 1 0x40 rfl
  unfold getOrigin getTyped wireOriginSlot slotOf
  rw [get_fromUpdate u 1 0x40 rfl, hl]
  cases hw : firstWire 1 u.attrs with
  | none => simp [PathSel.Slot.get]
  | some w =>
    simp only [typedValueW_len1]
    rcases hv : w.value with _ | ⟨o, _ | ⟨o2, r⟩⟩
    · simp [PathSel.Slot.get]
    · simp [PathSel.Slot.get, Attr.parseValue, Attr.rd8]
    · simp [PathSel.Slot.get]

theorem u32_fromUpdate (u : Update) (c : Nat) (hc : c = 4 ∨ c = 5 ∨ c = 9) :
    getU32 c (fromUpdate u) = .ok (wireU32 c u.attrs) := by
  obtain ⟨f, hf⟩ : ∃ f, typeFlags c = some f := by
    rcases hc with rfl | rfl | rfl <;> exact ⟨_, rfl⟩
  unfold getU32 getTyped wireU32
  rw [get_fromUpdate u c f hf]
  cases hw : firstWire c u.attrs with
  | none => simp
  | some w =>
    simp only [typedValueW_len4 _ c hc]
    rcases hv : w.value with _ | ⟨a, _ | ⟨b, _ | ⟨c', _ | ⟨d, _ | ⟨e, r⟩⟩⟩⟩⟩
    · simp
    · simp
    · simp
    · simp
    · rcases hc with rfl | rfl | rfl <;> simp [Attr.parseValue, rd32]
    · simp

theorem cl_fromUpdate (u : Update) : getClusterLen (fromUpdate u) = .ok (wireClusterLen u.attrs) := by
  unfold getClusterLen getTyped wireClusterLen
  rw [get_fromUpdate u 10 0x80 rfl]
  cases hw : firstWire 10 u.attrs with
  | none => simp
  | some w =>
    simp only [typedValueW_cl]
    by_cases hm : w.value.length % 4 = 0
    · obtain ⟨ids, h1, h2⟩ := dec32O_len (w.value.length / 4) w.value (by omega)
      simp [hm, Attr.parseValue, h1, h2]
    · simp [hm]

theorem path_fromUpdate (u : Update) :
    getPath (fromUpdate u) = .ok (wirePathSlot u.attrs).get ∧
    slotOf 2 (fromUpdate u) (wirePathSlot u.attrs).get = wirePathSlot u.attrs := by
  have hl := lookup_isSome_fromUpdate u 2 0x40 rfl
  unfold getPath getTyped wirePathSlot slotOf
  rw [get_fromUpdate u 2 0x40 rfl, hl]
  cases hw : firstWire 2 u.attrs with
  | none => simp [PathSel.Slot.get]
  | some w =>
    cases ht : typedValueW w.four 2 w.value with
    | none =>
      simp only [ht, Option.map_none, path_glue_none _ _ ht]
      simp [PathSel.Slot.get]
    | some v' =>
      obtain ⟨h1, h2, e1, e2, e3⟩ := path_glue _ _ _ ht
      simp only [ht, Option.map_some, e1, e2, e3]
      simp [PathSel.Slot.get]

/-- every read of `eligible` / `cmp` on the map built from an UPDATE finds what the reference
reading of the attribute section says -/
theorem readRoute_fromUpdate (u : Update) (tb : Tb) :
    readRoute (fromUpdate u) tb = .ok (wireRoute u.attrs tb) := by
  obtain ⟨o1, o2⟩ := origin_fromUpdate u
  obtain ⟨p1, p2⟩ := path_fromUpdate u
  simp only [readRoute, o1, p1, u32_fromUpdate u 5 (Or.inr (Or.inl rfl)), u32_fromUpdate u 4 (Or.inl rfl),
    u32_fromUpdate u 9 (Or.inr (Or.inr rfl)), cl_fromUpdate, o2, p2, wireRoute]

/-- a typed attribute holds a value its type's `validate` accepts and `parse` + `compose_value`
reproduce (an image of `compose_value`) -/
def AttrValOk (a : Attr) : Prop := a.kind = .typed → typedValue a.code a.value = some a.value

def ValOk (m : Map) : Prop := ∀ a ∈ m, AttrValOk a

theorem typedValue_keeps (c : Nat) (v w : Bytes) (hc : ¬ (c = 2 ∨ c = 17)) (h : typedValue c v = some w) : w = v := by
  have leaf : ∀ (p : Prop) [Decidable p], (if p then some v else none) = some w → w = v :=
    fun p _ h => (Option.some.inj (Option.ite_none_right_eq_some.1 h).2).symm
  have level : ∀ (p q : Prop) [Decidable p] [Decidable q] (b : Option Bytes), (b = some w → w = v) →
      (if p then (if q then some v else none) else b) = some w → w = v := by
    intro p q _ _ b hb h
    split at h
    · exact leaf q h
    · exact hb h
  simp only [typedValue, hc, if_false] at h
  revert h
  -- ten length rules, then code 255: each returns `v` itself or nothing
  iterate 10 refine level _ _ _ ?_
  exact leaf _

theorem typedValue_fixed (c : Nat) (v w : Bytes) (h : typedValue c v = some w) : typedValue c w = some w := by
  by_cases hc : c = 2 ∨ c = 17
  · exact Rc.Thm.C17.aspath_normal_form_fixed c hc v w h
  · exact typedValue_keeps c v w hc h ▸ h

theorem typedValueW_fixed (four : Bool) (c : Nat) (v w : Bytes) (h : typedValueW four c v = some w) :
    typedValue c w = some w := by
  cases four
  · by_cases h2 : c = 2
    · subst h2; exact Rc.Thm.C17.two_octet_aspath v w h
    · by_cases h7 : c = 7
      · subst h7; exact (Rc.Thm.C17.two_octet_aggregator v w h).2.2
      · rw [Rc.Thm.C17.typedValueW_width_free false c v h2 h7] at h
        exact typedValue_fixed c v w h
  · rw [Rc.Thm.C17.typedValueW_four] at h
    exact typedValue_fixed c v w h

theorem ownedOf_valok (w : Wire) : AttrValOk (ownedOf w) := by
  fun_cases ownedOf w with
  | case1 _ _ _ hv => exact fun _ => typedValueW_fixed _ _ _ _ hv
  | case2 | case3 => intro hk; cases hk

theorem mkTyped_valok {c : Nat} {v : Bytes} {a : Attr} (h : mkTyped c v = some a) : AttrValOk a := by
  unfold mkTyped at h
  split at h
  · rename_i f v' hf hv
    cases h
    intro _
    exact typedValue_fixed c v v' hv
  · cases h

theorem spec_valok {s : Spec} {a : Attr} (h : s.attr = some a) : AttrValOk a := by
  cases s with
  | typed c v => exact mkTyped_valok h
  | unimpl c f v | invalid c f v =>
    simp only [Spec.attr] at h
    split at h
    · cases h; intro hk; cases hk
    · cases h

theorem valok_mapInv : MapInv ValOk AttrValOk := MapInv.all ownedOf_valok

theorem valok_empty : ValOk [] := valok_mapInv.nil

/-- every map `PaMap::from_update_pdu` builds - from ANY attribute list, malformed, repeated and
unknown attributes included - holds well-formed typed values -/
theorem valok_fromUpdate (u : Update) : ValOk (fromUpdate u) := valok_mapInv.fromUpdate u

/-- the typed attributes an API call hands over are PARSE IMAGES (`AttrValOk`: the value octets parse as
the type and re-compose to themselves).  Narrower than "every value the public API can build": a
directly written `OriginType::Unimplemented(n)`, n <= 2, or a `HopPath` with a non-empty AS_SEQUENCE
held as `Hop::Segment` next to `Hop::Asn`s composes to octets of ANOTHER value and has no `Attr` of
its own (see the header of Rc/Model/PathSelGlue.lean). -/
def OpOk : Op → Prop
  | .set a => AttrValOk a
  | .setFromEnum a => AttrValOk a
  | .add a => AttrValOk a
  | _ => True

theorem valok_run (ops : List Op) (h : ∀ o ∈ ops, OpOk o) (s : St) (ha : ValOk s.a) (hb : ValOk s.b) :
    ValOk (run s ops).a ∧ ValOk (run s ops).b :=
  valok_mapInv.run ops (fun o ho => by cases o <;> exact h _ ho) s ha hb

theorem get_some {c : Nat} {m : Map} {a : Attr} (h : PaMap.get c m = some a) :
    a ∈ m ∧ a.kind = .typed ∧ a.code = c := by
  unfold PaMap.get at h
  cases hl : lookup c m with
  | none => simp [hl] at h
  | some b =>
    simp only [hl, Option.bind_some, fromAttr] at h
    split at h
    · rename_i hk; cases h; exact ⟨(lookup_mem hl).1, hk.1, hk.2⟩
    · cases h

private theorem len_of_valid {p : Prop} [Decidable p] {c : Nat} {v : Bytes}
    (e : typedValueW true c v = if p then some v else none) (h : typedValue c v = some v) : p := by
  rw [Rc.Thm.C17.typedValueW_four, h] at e
  exact (Option.ite_none_right_eq_some.1 e.symm).1

/-- C04's `parse` reads every value the length rules accept -/
theorem parse_of_valid (c : Nat) (v : Bytes) (h : typedValue c v = some v) :
    (c = 1 → ∃ o, Attr.parseValue 1 true v = .ok (.origin o)) ∧
    (c = 2 → ∃ p, Attr.parseValue 2 true v = .ok (.asPath p)) ∧
    (c = 4 → ∃ n, Attr.parseValue 4 true v = .ok (.med n)) ∧
    (c = 5 → ∃ n, Attr.parseValue 5 true v = .ok (.localPref n)) ∧
    (c = 9 → ∃ n, Attr.parseValue 9 true v = .ok (.originatorId n)) ∧
    (c = 10 → ∃ ids, Attr.parseValue 10 true v = .ok (.clusterList ids)) := by
  refine ⟨?_, ?_, ?_, ?_, ?_, ?_⟩ <;> intro hc <;> subst hc
  · match v, len_of_valid (typedValueW_len1 true v) h with
    | [o], _ => exact ⟨o.toNat, by simp [Attr.parseValue, Attr.rd8]⟩
  · have hw : typedValueW true 2 v = some v := by rw [Rc.Thm.C17.typedValueW_four]; exact h
    obtain ⟨_, h2, _, e2, _⟩ := path_glue true v v hw
    exact ⟨h2, e2⟩
  · obtain ⟨n, _, hn, _⟩ := rd32_exact (len_of_valid (typedValueW_len4 true 4 (.inl rfl) v) h)
    exact ⟨n, by simp [Attr.parseValue, hn]⟩
  · obtain ⟨n, _, hn, _⟩ := rd32_exact (len_of_valid (typedValueW_len4 true 5 (.inr (.inl rfl)) v) h)
    exact ⟨n, by simp [Attr.parseValue, hn]⟩
  · obtain ⟨n, _, hn, _⟩ := rd32_exact (len_of_valid (typedValueW_len4 true 9 (.inr (.inr rfl)) v) h)
    exact ⟨n, by simp [Attr.parseValue, hn]⟩
  · have hl : v.length % 4 = 0 := len_of_valid (typedValueW_cl true v) h
    obtain ⟨ids, h1, _⟩ := dec32O_len (v.length / 4) v (by omega)
    exact ⟨ids, by simp [Attr.parseValue, h1]⟩

theorem getTyped_of_valok {m : Map} (hm : ValOk m) (c : Nat) :
    getTyped c m = .ok none ∨
      ∃ v, typedValue c v = some v ∧ ∀ t, Attr.parseValue c true v = .ok t → getTyped c m = .ok (some t) := by
  unfold getTyped
  cases hg : PaMap.get c m with
  | none => exact .inl rfl
  | some a =>
    obtain ⟨hmem, hk, rfl⟩ := get_some hg
    exact .inr ⟨a.value, hm a hmem hk, fun t ht => by dsimp only; rw [ht]⟩

/-- on a map whose typed values are well formed every read succeeds -/
theorem readRoute_ok (m : Map) (hm : ValOk m) (tb : Tb) : ∃ r, readRoute m tb = .ok r := by
  obtain ⟨o, ho⟩ : ∃ x, getOrigin m = .ok x := by
    rcases getTyped_of_valok hm 1 with h | ⟨v, hv, h⟩
    · exact ⟨none, by rw [getOrigin, h]⟩
    · obtain ⟨o, ho⟩ := (parse_of_valid 1 v hv).1 rfl
      exact ⟨some o, by rw [getOrigin, h _ ho]⟩
  obtain ⟨p, hp⟩ : ∃ x, getPath m = .ok x := by
    rcases getTyped_of_valok hm 2 with h | ⟨v, hv, h⟩
    · exact ⟨none, by rw [getPath, h]⟩
    · obtain ⟨p, hp⟩ := (parse_of_valid 2 v hv).2.1 rfl
      exact ⟨some (p.map selHop), by rw [getPath, h _ hp]⟩
  obtain ⟨l, hl⟩ : ∃ x, getU32 5 m = .ok x := by
    rcases getTyped_of_valok hm 5 with h | ⟨v, hv, h⟩
    · exact ⟨none, by rw [getU32, h]⟩
    · obtain ⟨n, hn⟩ := (parse_of_valid 5 v hv).2.2.2.1 rfl
      exact ⟨some n, by rw [getU32, h _ hn]⟩
  obtain ⟨md, hmd⟩ : ∃ x, getU32 4 m = .ok x := by
    rcases getTyped_of_valok hm 4 with h | ⟨v, hv, h⟩
    · exact ⟨none, by rw [getU32, h]⟩
    · obtain ⟨n, hn⟩ := (parse_of_valid 4 v hv).2.2.1 rfl
      exact ⟨some n, by rw [getU32, h _ hn]⟩
  obtain ⟨oi, hoi⟩ : ∃ x, getU32 9 m = .ok x := by
    rcases getTyped_of_valok hm 9 with h | ⟨v, hv, h⟩
    · exact ⟨none, by rw [getU32, h]⟩
    · obtain ⟨n, hn⟩ := (parse_of_valid 9 v hv).2.2.2.2.1 rfl
      exact ⟨some n, by rw [getU32, h _ hn]⟩
  obtain ⟨cl, hcl⟩ : ∃ x, getClusterLen m = .ok x := by
    rcases getTyped_of_valok hm 10 with h | ⟨v, hv, h⟩
    · exact ⟨none, by rw [getClusterLen, h]⟩
    · obtain ⟨ids, hi⟩ := (parse_of_valid 10 v hv).2.2.2.2.2 rfl
      exact ⟨some ids.length, by rw [getClusterLen, h _ hi]⟩
  simp only [readRoute, ho, hp, hl, hmd, hoi, hcl]
  exact ⟨_, rfl⟩

private theorem ok_of_ite_err {β : Type} {c : Prop} [Decidable c] {x : Outcome β} {u : β}
    (h : (if c then .err else x) = .ok u) : x = .ok u := by
  split at h
  · cases h
  · exact h

/-- every attribute of an accepted UPDATE carries the AS number width of the session -/
theorem parseUpdate_width (four ap : Bool) (pdu : Bytes) (u : Update) (h : parseUpdate four ap pdu = .ok u) :
    ∀ w ∈ u.attrs, w.four = four := by
  dsimp only [parseUpdate] at h
  -- `.ok` is returned by the innermost branch only, where `parseWire four` has accepted the attributes.
  -- The refusing `if`s go by `ok_of_ite_err`: `split` on an `if` rewrites under all the `match`es below it.
  repeat' first | replace h := ok_of_ite_err h | split at h
  all_goals cases h
  exact Rc.Thm.C17.parseWire_width four _ _ _ ‹_›

end Rc.PathSelGlue
