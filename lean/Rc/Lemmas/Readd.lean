/-
Lemmas for the NLRI clause of C07: the builder of Rc/Model/Reenc.lean
(`NlBuilder` … `readdPdu`) against the UPDATE decoder model of C01 / C02.

* source side: what `typed_announcements::<_, A>()` / `typed_withdrawals` of the
  decoder model yield is the item list over `typedAnnBytes` / `typedWdBytes`,
  and the re-add loop (`takeNlri`) takes exactly the `Ok` items before the first
  item that is not `Ok`;
* output side: what `finish` writes is the RFC framing (`Rc.Upd.frame`) of
  MP_REACH_NLRI, MP_UNREACH_NLRI and the re-encoded attribute map, which the
  decoder model accepts and reads back (`finish_decodes`).
-/
import Rc.Model.Reenc
import Rc.Lemmas.UpdateMp
import Rc.Lemmas.Nlri

namespace Rc.Reenc
open Rc Rc.Attr Rc.Nlri Rc.Upd

/-! ### views of a decoded message -/

/-- the `Ok` items an iterator yields before its first item that is not `Ok` -/
def okPrefix {α : Type} : List (Outcome α) → List α
  | .ok a :: r => a :: okPrefix r
  | _ => []

/-- the items of `typed_announcements::<_, A>()` (`A` = the NLRI type of family `f`, with
path ids when `ap`); nothing for `Ok(None)` and `Err` -/
def annView (m : Msg) (f : Fam) (ap : Bool) : List (Outcome AnyNlri) :=
  match m.typedAnn f ap with
  | .ok (some (l, _)) => l
  | _ => []

/-- the items of `typed_withdrawals::<_, A>()` -/
def wdView (m : Msg) (f : Fam) (ap : Bool) : List (Outcome AnyNlri) :=
  match m.typedWd f ap with
  | .ok (some (l, _)) => l
  | _ => []

theorem okPrefix_ok_append {α : Type} (l : List α) (t : List (Outcome α)) :
    okPrefix (l.map Outcome.ok ++ t) = l ++ okPrefix t := by
  induction l with
  | nil => rfl
  | cons a r ih => exact congrArg (a :: ·) ih

theorem okPrefix_map {α β : Type} (g : α → β) (l : List (Outcome α)) :
    okPrefix (l.map (mapO g)) = (okPrefix l).map g := by
  induction l with
  | nil => rfl
  | cons a r ih => cases a <;> simp [okPrefix, mapO, ih]

theorem okPrefix_all {α : Type} (l : List (Outcome α)) (h : ∀ x ∈ l, isOkItem x = true) :
    l = (okPrefix l).map Outcome.ok := by
  induction l with
  | nil => rfl
  | cons a r ih =>
    cases a with
    | ok v => simp only [okPrefix, List.map_cons, List.cons.injEq, true_and]; exact ih (fun x hx => h x (by simp [hx]))
    | err => have := h .err (by simp); simp [isOkItem] at this
    | panic => have := h .panic (by simp); simp [isOkItem] at this

/-! ### the iterator and the validation loop walk the same items -/

theorem collect_nil {α : Type} (c : Codec α) (g : Nat) : (collect (nlriNext c) g []).1 = [] := by
  cases g <;> simp [collect, nlriNext]

theorem items_of_decAllFuel {α : Type} (c : Codec α) (hp : Progress c)
    (g : Nat) (bs : Bytes) (ns : List α) (e : Bool) (hl : bs.length ≤ g) (h : decAllFuel c g bs = .ok (ns, e))
    (g' : Nat) (hg' : bs.length ≤ g') :
    (collect (nlriNext c) g' bs).1 = ns.map Outcome.ok ++ (if e then [] else [.err]) := by
  fun_induction decAllFuel c g bs generalizing ns e g' with
  | case1 => cases h; simp [collect_nil]
  | case2 => simp at hl
  | case3 f b t n r hd ns' e' hr ih =>
    cases h
    have hlt := hp _ _ _ hd
    match g', hg' with
    | k + 1, hg' =>
      have hn : nlriNext c (b :: t) = some (.ok n, r) := by simp only [nlriNext, hd]
      have := ih ns' e' (by simp at hl hlt; omega) hr k (by simp at hg' hlt; omega)
      simp only [collect, hn, this, List.map_cons, List.cons_append]
  | case6 f b t hd =>
    cases h
    match g', hg' with
    | k + 1, hg' =>
      have hn : nlriNext c (b :: t) = some (.err, []) := by simp only [nlriNext, hd]
      simp [collect, hn, collect_nil]
  | _ => cases h

/-- what `NlriIter` yields, in terms of `decAll`: the parsed values, then one `Err`
item when the loop stopped at an NLRI that does not parse -/
theorem items_of_decAll {α : Type} (c : Codec α) (hp : Progress c) (bs : Bytes) (ns : List α) (e : Bool)
    (h : Nlri.decAll c bs = .ok (ns, e)) :
    (nlriItems c bs).1 = ns.map Outcome.ok ++ (if e then [] else [.err]) :=
  items_of_decAllFuel c hp bs.length bs ns e (Nat.le_refl _) h _ (by omega)

theorem decAllFuel_wf {α} (c : Codec α) (hwf : ∀ bs n r, c.dec bs = .ok (n, r) → c.wf n = true)
    (f : Nat) (bs : Bytes) (ns : List α) (e : Bool) (h : decAllFuel c f bs = .ok (ns, e)) :
    ∀ n ∈ ns, c.wf n = true := by
  fun_induction decAllFuel c f bs generalizing ns e with
  | case3 f b bs n r hd ns' e' hr ih =>
    cases h
    exact List.forall_mem_cons.mpr ⟨hwf _ _ _ hd, ih ns' e' hr⟩
  | case1 | case2 | case6 => cases h; simp
  | _ => cases h

theorem decAllFuel_ne_err {α : Type} (c : Codec α) (g : Nat) (bs : Bytes) : decAllFuel c g bs ≠ .err := by
  fun_induction decAllFuel c g bs <;> simp_all

theorem readd_spec {α : Type} {c : Codec α} (hs : c.Sound) (bs : Bytes) :
    ∃ ns, readd c bs = .ok ns ∧ (∀ n ∈ ns, c.wf n = true) ∧ okPrefix (nlriItems c bs).1 = ns := by
  cases hd : Nlri.decAll c bs with
  | ok p =>
    obtain ⟨ns, e⟩ := p
    refine ⟨ns, by simp [readd, hd], decAllFuel_wf _ (fun bs _ _ h => ((hs bs).of_ok h).1) _ _ _ _ hd, ?_⟩
    rw [items_of_decAll _ (progress_of_sound hs) _ _ _ hd, okPrefix_ok_append]
    cases e <;> exact List.append_nil ns
  | err => exact absurd hd (decAllFuel_ne_err _ _ _)
  | panic => exact absurd hd (decAllFuel_noPanic (noPanic_of_sound hs) _ _)

/-- the re-add loop over one NLRI section: it never fails, what it takes is well formed, and
it is exactly the `Ok` prefix of what the typed iterator of the decoder model yields -/
theorem takeNlri_spec (f : Fam) (ap : Bool) (bs : Bytes) :
    ∃ l, takeNlri f ap bs = .ok l ∧ NlrisWf f ap l ∧ okPrefix (famItems f ap bs).1 = anyNlris f ap l := by
  cases ap with
  | true =>
    obtain ⟨ns, h1, h2, h3⟩ := readd_spec (c := codecAp f) (codec_sound f).addpath bs
    exact ⟨ns, by simp [takeNlri, h1], by simpa [NlrisWf] using h2, by simp [famItems, anyNlris, okPrefix_map, h3]⟩
  | false =>
    obtain ⟨ns, h1, h2, h3⟩ := readd_spec (codec_sound f) bs
    exact ⟨ns.map fun v => (0, v), by simp [takeNlri, h1, mapO], by simpa [NlrisWf] using h2,
      by simp [famItems, anyNlris, okPrefix_map, h3, List.map_map, Function.comp_def]⟩

/-! ### the typed accessors of the decoder model, over the octets the builder reads -/

theorem typedAnn_bytes (m : Msg) (f : Fam) (ap : Bool) :
    m.typedAnn f ap = mapO (Option.map (famItems f ap)) (typedAnnBytes m f) := by
  unfold Msg.typedAnn typedAnnBytes
  split
  · rfl
  · cases m.mpAttr 14 with
    | ok x =>
      cases x with
      | none => rfl
      | some p =>
        obtain ⟨k, r⟩ := p
        simp only
        split
        · cases skipNextHop r <;> rfl
        · rfl
    | err => rfl
    | panic => rfl

theorem typedWd_bytes (m : Msg) (f : Fam) (ap : Bool) :
    m.typedWd f ap = mapO (Option.map (famItems f ap)) (typedWdBytes m f) := by
  unfold Msg.typedWd typedWdBytes
  split
  · rfl
  · cases m.mpAttr 15 with
    | ok x =>
      cases x with
      | none => rfl
      | some p =>
        obtain ⟨k, r⟩ := p
        simp only
        split <;> rfl
    | err => rfl
    | panic => rfl

theorem annView_bytes (m : Msg) (f : Fam) (ap : Bool) :
    annView m f ap = (match typedAnnBytes m f with | .ok (some bs) => (famItems f ap bs).1 | _ => []) := by
  unfold annView
  rw [typedAnn_bytes]
  cases typedAnnBytes m f with
  | ok x => cases x <;> rfl
  | err => rfl
  | panic => rfl

theorem wdView_bytes (m : Msg) (f : Fam) (ap : Bool) :
    wdView m f ap = (match typedWdBytes m f with | .ok (some bs) => (famItems f ap bs).1 | _ => []) := by
  unfold wdView
  rw [typedWd_bytes]
  cases typedWdBytes m f with
  | ok x => cases x <;> rfl
  | err => rfl
  | panic => rfl

theorem mpAttr_noPanic (m : Msg) (code : Nat) : m.mpAttr code ≠ .panic := by
  unfold Msg.mpAttr
  obtain ⟨h1, h2, h3⟩ := findUnchecked_spec code m.attrs.length m.attrs
  cases hf : findUnchecked code m.attrs.length m.attrs with
  | ok x =>
    cases x with
    | none => simp
    | some e =>
      obtain ⟨_, v, hv, _⟩ := h3 e hf
      simp only [hv]
      split <;> simp
  | err => exact absurd hf h2
  | panic => exact absurd hf h1

theorem typedAnnBytes_noPanic (m : Msg) (f : Fam) : typedAnnBytes m f ≠ .panic := by
  unfold typedAnnBytes
  have := mpAttr_noPanic m 14
  split
  · simp
  · split <;> try simp_all
    split <;> try simp
    split <;> simp

theorem typedWdBytes_noPanic (m : Msg) (f : Fam) : typedWdBytes m f ≠ .panic := by
  unfold typedWdBytes
  have := mpAttr_noPanic m 15
  split
  · simp
  · split <;> try simp_all
    split <;> simp

theorem any_isPanicItem_false {l : List (Outcome AnyNlri)} (h : ∀ x ∈ l, x ≠ .panic) :
    l.any isPanicItem = false := by
  rw [List.any_eq_false]
  intro x hx
  have := h x hx
  cases x <;> simp_all [isPanicItem]

theorem countIsZero_combined (x : Outcome (Option (NlriTy × Bytes))) (conv : List (Outcome AnyNlri) × Bool) :
    x ≠ .panic → (∀ y ∈ conv.1, y ≠ .panic) →
    ∃ z, countIsZero (match x with
        | .ok o => .ok ((itemsOfOpt o).1 ++ conv.1, (itemsOfOpt o).2 && conv.2)
        | .err => .err
        | .panic => .panic) = .ok z ∧
      (z = true → conv.1 = [] ∧ ∃ o, x = .ok o ∧ (itemsOfOpt o).1 = []) := by
  intro hx hconv
  match x, hx with
  | .err, _ => exact ⟨false, rfl, by simp⟩
  | .ok o, _ =>
    have hall : ∀ y ∈ (itemsOfOpt o).1 ++ conv.1, y ≠ .panic := by
      intro y hy
      rcases List.mem_append.mp hy with h | h
      · cases o with
        | none => simp [itemsOfOpt] at h
        | some p => exact (enumItems_spec p.1 p.2).2.2.2 y h
      · exact hconv y h
    refine ⟨((itemsOfOpt o).1 ++ conv.1).isEmpty, by simp [countIsZero, any_isPanicItem_false hall], fun hz => ?_⟩
    simp only [List.isEmpty_iff, List.append_eq_nil_iff] at hz
    exact ⟨hz.2, o, rfl, hz.1⟩

theorem mpAnn_noPanic (m : Msg) : m.mpAnn ≠ .panic := by
  unfold Msg.mpAnn
  cases h : m.mpAttr 14 with
  | ok y =>
    cases y with
    | none => simp
    | some p => simp only; split <;> simp
  | err => simp
  | panic => exact absurd h (mpAttr_noPanic m 14)

theorem mpWd_noPanic (m : Msg) : m.mpWd ≠ .panic := by
  unfold Msg.mpWd
  cases h : m.mpAttr 15 with
  | ok y => cases y <;> simp
  | err => simp
  | panic => exact absurd h (mpAttr_noPanic m 15)

/-- the early-out of `add_announcements_from_pdu`: the test never panics, and when the
combined iterator yields nothing the typed iterator of any family yields nothing either -/
theorem countIsZero_ann (m : Msg) :
    ∃ z, countIsZero m.announcements = .ok z ∧ (z = true → ∀ f ap, annView m f ap = []) := by
  obtain ⟨z, hz, hzero⟩ := countIsZero_combined m.mpAnn m.convAnn (mpAnn_noPanic m)
    (famItems_spec .v4u m.ppi.conv m.ann).2.2.2
  refine ⟨z, hz, fun h f ap => ?_⟩
  obtain ⟨hconv, o, hx, ho⟩ := hzero h
  have hann : m.ann = [] := (famItems_nil_iff .v4u m.ppi.conv m.ann).mp hconv
  rw [annView_bytes]
  unfold typedAnnBytes
  simp only [hann, ne_eq, not_true_eq_false, and_false, ↓reduceIte]
  unfold Msg.mpAnn at hx
  cases h14 : m.mpAttr 14 with
  | ok y =>
    cases y with
    | none => rfl
    | some p =>
      obtain ⟨k, r⟩ := p
      simp only [h14] at hx ⊢
      cases hs : skipNextHop r with
      | none => simp [hs] at hx
      | some r' =>
        simp only [hs, Outcome.ok.injEq] at hx
        subst hx
        by_cases hk : famOf k = some f
        · simp only [hk, ↓reduceIte]
          simp only [itemsOfOpt, nlriTy, hk] at ho
          rw [(enumItems_known_nil_iff f m.ppi.mpReach r').mp ho]
          exact (famItems_nil_iff f ap []).mpr rfl
        · simp [hk]
  | err => rfl
  | panic => rfl

theorem countIsZero_wd (m : Msg) :
    ∃ z, countIsZero m.withdrawals = .ok z ∧ (z = true → ∀ f ap, wdView m f ap = []) := by
  obtain ⟨z, hz, hzero⟩ := countIsZero_combined m.mpWd m.convWd (mpWd_noPanic m)
    (famItems_spec .v4u m.ppi.conv m.wd).2.2.2
  refine ⟨z, hz, fun h f ap => ?_⟩
  obtain ⟨hconv, o, hx, ho⟩ := hzero h
  have hwd : m.wd = [] := (famItems_nil_iff .v4u m.ppi.conv m.wd).mp hconv
  rw [wdView_bytes]
  unfold typedWdBytes
  simp only [hwd, ne_eq, not_true_eq_false, and_false, ↓reduceIte]
  unfold Msg.mpWd at hx
  cases h15 : m.mpAttr 15 with
  | ok y =>
    cases y with
    | none => rfl
    | some p =>
      obtain ⟨k, r⟩ := p
      simp only [h15, Outcome.ok.injEq] at hx ⊢
      subst hx
      by_cases hk : famOf k = some f
      · simp only [hk, ↓reduceIte]
        simp only [itemsOfOpt, nlriTy, hk] at ho
        rw [(enumItems_known_nil_iff f m.ppi.mpUnreach r).mp ho]
        exact (famItems_nil_iff f ap []).mpr rfl
      · simp [hk]
  | err => rfl
  | panic => rfl

/-- the body `mpReachAddFromPdu` and `mpUnreachAddFromPdu` share, over what the typed accessor returned (`tb`) -/
theorem addFrom_spec (f : Fam) (ap : Bool) (tb : Outcome (Option Bytes)) (l0 : List (Nat × f.Val)) : tb ≠ .panic →
    ∃ l, NlrisWf f ap l ∧
      okPrefix (match tb with | .ok (some bs) => (famItems f ap bs).1 | _ => []) = anyNlris f ap l ∧
      (match tb with
        | .ok (some bs) =>
          match takeNlri f ap bs with
          | .ok ns => .ok (l0 ++ ns)
          | .err => .err
          | .panic => .panic
        | .ok none => .ok l0
        | .err => .ok l0
        | .panic => .panic) = Outcome.ok (l0 ++ l) := by
  have hnil : NlrisWf f ap [] := by cases ap <;> simp [NlrisWf]
  intro htb
  match tb, htb with
  | .ok (some bs), _ =>
    obtain ⟨l, h1, h2, h3⟩ := takeNlri_spec f ap bs
    exact ⟨l, h2, h3, by simp only [h1]⟩
  | .ok none, _ => exact ⟨[], hnil, (anyNlris_nil_iff f ap []).mpr rfl ▸ rfl, by simp⟩
  | .err, _ => exact ⟨[], hnil, (anyNlris_nil_iff f ap []).mpr rfl ▸ rfl, by simp⟩

theorem mpReachAdd_spec (m : Msg) (f : Fam) (ap : Bool) (l0 : List (Nat × f.Val)) :
    ∃ l, NlrisWf f ap l ∧ okPrefix (annView m f ap) = anyNlris f ap l ∧ mpReachAddFromPdu m f ap l0 = .ok (l0 ++ l) := by
  rw [annView_bytes]
  exact addFrom_spec f ap (typedAnnBytes m f) l0 (typedAnnBytes_noPanic m f)

theorem mpUnreachAdd_spec (m : Msg) (f : Fam) (ap : Bool) (l0 : List (Nat × f.Val)) :
    ∃ l, NlrisWf f ap l ∧ okPrefix (wdView m f ap) = anyNlris f ap l ∧ mpUnreachAddFromPdu m f ap l0 = .ok (l0 ++ l) := by
  rw [wdView_bytes]
  exact addFrom_spec f ap (typedWdBytes m f) l0 (typedWdBytes_noPanic m f)

/-- **the re-add of the announcements**, on a builder that has no MP_REACH_NLRI builder yet:
it never fails; what it leaves in the builder is exactly the `Ok` prefix of the message's
announcements of the builder's family (well-formed values) - or no MP_REACH_NLRI builder at all
when that prefix is empty -/
theorem addAnn_spec (m : Msg) (f : Fam) (ap : Bool) (b : NlBuilder f) (hb : b.ann = none) :
    ∃ l, NlrisWf f ap l ∧ okPrefix (annView m f ap) = anyNlris f ap l ∧
      addAnnouncementsFromPdu m f ap b = .ok { b with ann := if l.isEmpty then none else some l } := by
  obtain ⟨z, hz, hzero⟩ := countIsZero_ann m
  obtain ⟨l, h1, h2, h3⟩ := mpReachAdd_spec m f ap []
  have hb' : b = { b with ann := none } := by cases b; simp_all
  refine ⟨l, h1, h2, ?_⟩
  simp only [addAnnouncementsFromPdu, hz, hb, h3, List.nil_append]
  cases z with
  | true =>
    rw [hzero rfl f ap] at h2
    rw [(anyNlris_nil_iff f ap l).mp h2.symm]
    exact congrArg Outcome.ok hb'
  | false =>
    cases hl : l.isEmpty
    · rfl
    · exact congrArg Outcome.ok hb'

theorem addWd_spec (m : Msg) (f : Fam) (ap : Bool) (b : NlBuilder f) (hb : b.wd = none) :
    ∃ l, NlrisWf f ap l ∧ okPrefix (wdView m f ap) = anyNlris f ap l ∧
      addWithdrawalsFromPdu m f ap b = .ok { b with wd := if l.isEmpty then none else some l } := by
  obtain ⟨z, hz, hzero⟩ := countIsZero_wd m
  obtain ⟨l, h1, h2, h3⟩ := mpUnreachAdd_spec m f ap []
  have hb' : b = { b with wd := none } := by cases b; simp_all
  refine ⟨l, h1, h2, ?_⟩
  simp only [addWithdrawalsFromPdu, hz, hb, h3, List.nil_append]
  cases z with
  | true =>
    rw [hzero rfl f ap] at h2
    rw [(anyNlris_nil_iff f ap l).mp h2.symm]
    exact congrArg Outcome.ok hb'
  | false =>
    cases hl : l.isEmpty
    · rfl
    · exact congrArg Outcome.ok hb'

/-- **the re-add of the announcements on a builder that already has an MP_REACH_NLRI builder**
(update_builder.rs:250 `if let Some(ref mut b) = self.announcements`; request `nlt`): it never
fails and EXTENDS what the builder holds - its own NLRI first, then the `Ok` prefix of the
message's announcements of the builder's family -/
theorem addAnn_ext_spec (m : Msg) (f : Fam) (ap : Bool) (b : NlBuilder f) (l0 : List (Nat × f.Val))
    (hb : b.ann = some l0) :
    ∃ l, NlrisWf f ap l ∧ okPrefix (annView m f ap) = anyNlris f ap l ∧
      addAnnouncementsFromPdu m f ap b = .ok { b with ann := some (l0 ++ l) } := by
  obtain ⟨z, hz, hzero⟩ := countIsZero_ann m
  obtain ⟨l, h1, h2, h3⟩ := mpReachAdd_spec m f ap l0
  refine ⟨l, h1, h2, ?_⟩
  simp only [addAnnouncementsFromPdu, hz, hb, h3]
  cases z with
  | true =>
    rw [hzero rfl f ap] at h2
    rw [(anyNlris_nil_iff f ap l).mp h2.symm, List.append_nil]
    cases b; simp_all
  | false => rfl

/-- the same for the withdrawals (update_builder.rs:277) -/
theorem addWd_ext_spec (m : Msg) (f : Fam) (ap : Bool) (b : NlBuilder f) (l0 : List (Nat × f.Val))
    (hb : b.wd = some l0) :
    ∃ l, NlrisWf f ap l ∧ okPrefix (wdView m f ap) = anyNlris f ap l ∧
      addWithdrawalsFromPdu m f ap b = .ok { b with wd := some (l0 ++ l) } := by
  obtain ⟨z, hz, hzero⟩ := countIsZero_wd m
  obtain ⟨l, h1, h2, h3⟩ := mpUnreachAdd_spec m f ap l0
  refine ⟨l, h1, h2, ?_⟩
  simp only [addWithdrawalsFromPdu, hz, hb, h3]
  cases z with
  | true =>
    rw [hzero rfl f ap] at h2
    rw [(anyNlris_nil_iff f ap l).mp h2.symm, List.append_nil]
    cases b; simp_all
  | false => rfl

theorem nlIsValid_opt {f : Fam} (b : NlBuilder f) (la lw : List (Nat × f.Val))
    (hba : b.ann = if la.isEmpty then none else some la) (hbw : b.wd = if lw.isEmpty then none else some lw) :
    nlIsValid b = true := by
  unfold nlIsValid
  rw [hba, hbw]
  cases la <;> cases lw <;> rfl

theorem nlIntoMessage_too_large (cfg : Cfg) {f : Fam} (ap : Bool) (b : NlBuilder f) (n : Nat) (hv : nlIsValid b = true)
    (hl : lenList b.attrs = .ok n) (hsz : 4096 < calcPduLen f ap b n) : nlIntoMessage cfg f ap b = .err := by
  simp only [nlIntoMessage, hv, hl, MAX_PDU, hsz, Bool.not_true, Bool.false_eq_true, ↓reduceIte]

/-! ### what `finish` writes -/

theorem encAll_length {α : Type} {c : Codec α} (h : c.Laws) : ∀ (ns : List α) (b : Bytes),
    (∀ n ∈ ns, c.wf n = true) → Nlri.encAll c ns = .ok b → clenSum c ns = b.length := by
  intro ns
  induction ns with
  | nil => intro b _ he; simp only [Nlri.encAll, Outcome.ok.injEq] at he; subst he; rfl
  | cons n t ih =>
    intro b hw he
    obtain ⟨a, ha, _⟩ := h.enc_ok n (hw n (by simp))
    obtain ⟨b', hb', _⟩ := h.list_roundtrip t (fun x hx => hw x (by simp [hx]))
    rw [encAll_cons_ok c n t a b' ha hb'] at he
    simp only [Outcome.ok.injEq] at he
    subst he
    have h1 := h.len_eq n a (h.wf_inv n (hw n (by simp))) ha
    have h2 := ih b' (fun x hx => hw x (by simp [hx])) hb'
    simp only [clenSum, List.map_cons, List.sum_cons, List.length_append] at h2 ⊢
    omega

/-- `compose_len()` summed over well-formed NLRI is the number of octets `compose` writes -/
theorem nlriLen_eq (f : Fam) (ap : Bool) (l : List (Nat × f.Val)) (hw : NlrisWf f ap l) (nb : Bytes)
    (he : encNlris f ap l = .ok nb) : nlriLen f ap l = nb.length := by
  cases ap with
  | true =>
    simp only [NlrisWf, ↓reduceIte] at hw
    simp only [encNlris, ↓reduceIte] at he
    simp only [nlriLen, ↓reduceIte]
    exact encAll_length (codecAp_laws f) l nb hw he
  | false =>
    simp only [NlrisWf, Bool.false_eq_true, ↓reduceIte] at hw
    simp only [encNlris, Bool.false_eq_true, ↓reduceIte] at he
    simp only [nlriLen, Bool.false_eq_true, ↓reduceIte]
    exact encAll_length (codec_laws f) _ nb
      (by intro n hn; simp only [List.mem_map] at hn; obtain ⟨x, hx, rfl⟩ := hn; exact hw x hx) he

/-- the MP_REACH_NLRI attribute `finish` writes, as a raw attribute: optional non-transitive,
extended length above 255 value octets, value = RFC 4760 layout with the default next hop -/
def reachRaw (f : Fam) (nb : Bytes) : RawAttr :=
  ⟨if (reachValue f (defaultNextHop f) nb).length > 255 then 0x90 else 0x80, 14, reachValue f (defaultNextHop f) nb⟩

def unreachRaw (f : Fam) (nb : Bytes) : RawAttr :=
  ⟨if (unreachValue f nb).length > 255 then 0x90 else 0x80, 15, unreachValue f nb⟩

theorem defaultNextHop_small (f : Fam) : (defaultNextHop f).length < 256 := by cases f <;> simp [defaultNextHop]

theorem reachValue_length (f : Fam) (nh nb : Bytes) : (reachValue f nh nb).length = 2 + 1 + 1 + nh.length + 1 + nb.length := by
  simp [reachValue]; omega

theorem unreachValue_length (f : Fam) (nb : Bytes) : (unreachValue f nb).length = 3 + nb.length := by
  simp [unreachValue]; omega

theorem encRaw_mp (code : UInt8) (v : Bytes) (hv : v.length < 65536) :
    encRaw ⟨if v.length > 255 then 0x90 else 0x80, code, v⟩ = mpHeader code v.length ++ v := by
  unfold encRaw mpHeader
  by_cases h : v.length > 255
  · have e : extBit (0x90 : UInt8) = true := by decide
    have : min v.length 65535 = v.length := by omega
    simp [h, e, this]
  · have e : extBit (0x80 : UInt8) = false := by decide
    have : min v.length 255 = v.length := by omega
    simp [h, e, this]

theorem reachAttr_eq (f : Fam) (ap : Bool) (l : List (Nat × f.Val)) (hw : NlrisWf f ap l) (nb : Bytes)
    (he : encNlris f ap l = .ok nb) :
    reachValueLen f ap l = (reachValue f (defaultNextHop f) nb).length ∧
      ((reachValue f (defaultNextHop f) nb).length < 65536 → reachAttr f ap l = .ok (encRaw (reachRaw f nb))) := by
  have hl := nlriLen_eq f ap l hw nb he
  have h1 : reachValueLen f ap l = (reachValue f (defaultNextHop f) nb).length := by
    rw [reachValue_length]; simp only [reachValueLen, hl]; omega
  refine ⟨h1, ?_⟩
  intro hsz
  have hb : nlriBytes f ap l = .ok nb := he
  simp only [reachAttr, hb, h1, reachRaw, encRaw_mp 14 _ hsz]
  simp [reachValue, afiSafiBytes, List.append_assoc]

theorem unreachAttr_eq (f : Fam) (ap : Bool) (l : List (Nat × f.Val)) (hw : NlrisWf f ap l) (nb : Bytes)
    (he : encNlris f ap l = .ok nb) :
    unreachValueLen f ap l = (unreachValue f nb).length ∧
      ((unreachValue f nb).length < 65536 → unreachAttr f ap l = .ok (encRaw (unreachRaw f nb))) := by
  have hl := nlriLen_eq f ap l hw nb he
  have h1 : unreachValueLen f ap l = (unreachValue f nb).length := by
    rw [unreachValue_length]; simp only [unreachValueLen, hl]
  refine ⟨h1, ?_⟩
  intro hsz
  have hb : nlriBytes f ap l = .ok nb := he
  simp only [unreachAttr, hb, h1, unreachRaw, encRaw_mp 15 _ hsz]
  simp [unreachValue, afiSafiBytes, List.append_assoc]

theorem encRaw_length (a : RawAttr) : (encRaw a).length = (if extBit a.fl then 4 else 3) + a.v.length := by
  unfold encRaw; split <;> simp <;> omega

theorem mpAttrLen_eq (code : UInt8) (v : Bytes) :
    mpAttrLen v.length = (encRaw ⟨if v.length > 255 then 0x90 else 0x80, code, v⟩).length := by
  rw [encRaw_length]
  unfold mpAttrLen headerLen
  by_cases h : v.length > 255
  · have e : extBit (0x90 : UInt8) = true := by decide
    simp [h, e]
  · have e : extBit (0x80 : UInt8) = false := by decide
    simp [h, e]

/-! ### the decoder model on what `finish` wrote -/

theorem convItems_nil (ap : Bool) : famItems .v4u ap [] = ([], true) := by
  cases ap <;> simp [famItems, nlriItems, collect, nlriNext]

theorem convValidate_nil (ap : Bool) : convValidate ap [] = .ok () := by
  cases ap <;> simp [convValidate, nlriValidate, Nlri.decAll, decAllFuel]

theorem view_reach_none (m : Msg) (L : List RawAttr) (hm : m.attrs = encRaws L)
    (hwf : ∀ a ∈ L, a.wf = true) (f : Fam) (ap : Bool) (hfirst : firstWith 14 L = none) (hann : m.ann = []) :
    annView m f ap = [] ∧ m.announcements = .ok ([], true) := by
  have h := Raw.mpAttr_absent m L hm hwf 14 hfirst
  refine ⟨by simp [annView, Msg.typedAnn, hann, h], ?_⟩
  simp [Msg.announcements, Msg.mpAnn, h, itemsOfOpt, Msg.convAnn, hann, convItems_nil]

theorem view_unreach_none (m : Msg) (L : List RawAttr) (hm : m.attrs = encRaws L)
    (hwf : ∀ a ∈ L, a.wf = true) (f : Fam) (ap : Bool) (hfirst : firstWith 15 L = none) (hwd : m.wd = []) :
    wdView m f ap = [] ∧ m.withdrawals = .ok ([], true) := by
  have h := Raw.mpAttr_absent m L hm hwf 15 hfirst
  refine ⟨by simp [wdView, Msg.typedWd, hwd, h], ?_⟩
  simp [Msg.withdrawals, Msg.mpWd, h, itemsOfOpt, Msg.convWd, hwd, convItems_nil]

/-- the MP attributes `finish` writes in front of the attribute map -/
def mpRaws (f : Fam) (la lw : List (Nat × f.Val)) (na nw : Bytes) : List RawAttr :=
  (if la.isEmpty then [] else [reachRaw f na]) ++ (if lw.isEmpty then [] else [unreachRaw f nw])

theorem mem_mpRaws {f : Fam} {la lw : List (Nat × f.Val)} {na nw : Bytes} {a : RawAttr} (h : a ∈ mpRaws f la lw na nw) :
    (la.isEmpty = false ∧ a = reachRaw f na) ∨ (lw.isEmpty = false ∧ a = unreachRaw f nw) := by
  simp only [mpRaws, List.mem_append] at h
  rcases h with h | h
  · cases hl : la.isEmpty <;> simp_all
  · cases hl : lw.isEmpty <;> simp_all

theorem frame_nil (S : Bytes) :
    frame [] S [] = List.replicate 16 (0xff : UInt8) ++ (be16 (23 + S.length) ++ (2 :: (be16 0 ++ ([] ++ (be16 S.length ++ (S ++ [])))))) := by
  simp only [frame, marker, List.length_nil, List.nil_append, List.append_nil]
  have : 19 + 2 + 0 + 2 + S.length + 0 = 23 + S.length := by omega
  rw [this]

/-- `o`: the builder's optional MP builder holding `l`; `len` / `att`: `compose_len()` / `compose` of its attribute `a` -/
theorem optMp_written {β : Type} (l : List β) {o : Option (List β)} (ho : o = if l.isEmpty then none else some l)
    (len : Option (List β) → Nat) (att : Option (List β) → Outcome Bytes) (a : RawAttr)
    (hl0 : len none = 0) (ha0 : att none = .ok []) (h1 : len (some l) = (encRaw a).length)
    (h2 : a.v.length < 65536 → att (some l) = .ok (encRaw a)) (h3 : a.v.length < 65536 → a.wf = true) :
    len o = (encRaws (if l.isEmpty then [] else [a])).length ∧
    ((encRaws (if l.isEmpty then [] else [a])).length < 65536 →
      att o = .ok (encRaws (if l.isEmpty then [] else [a])) ∧ ∀ x ∈ (if l.isEmpty then [] else [a]), x.wf = true) := by
  subst ho
  cases l.isEmpty
  · have e : encRaws [a] = encRaw a := by simp [encRaws]
    simp only [Bool.false_eq_true, if_false, e, List.mem_singleton, forall_eq]
    refine ⟨h1, fun h => ?_⟩
    have hv : a.v.length < 65536 := by
      rw [encRaw_length] at h
      omega
    exact ⟨h2 hv, h3 hv⟩
  · exact ⟨hl0, fun _ => ⟨ha0, by simp⟩⟩

/-- **`into_message` on a builder that holds re-added NLRI.**  For a builder whose attribute
map composes to a sequence of well-framed attributes other than MP_REACH_NLRI / MP_UNREACH_NLRI
(`raws`), holding the well-formed announcements `la` and withdrawals `lw` of its family (an
empty list = no MP builder), in a session whose ADD-PATH setting for the family is the
builder's NLRI type: if the PDU fits 4096 octets, `into_message` returns a PDU; the decoder
model accepts it in the same session; its conventional sections are empty; its typed and its
session-typed iterators yield exactly `la` / `lw`, every item `Ok`; and its attribute section is
the MP attributes followed by the octets of the attribute map. -/
theorem finish_decodes (cfg : Cfg) (f : Fam) (ap : Bool) (hap : ap = cfg.rx (famCode f))
    (b : NlBuilder f) (raws : List RawAttr)
    (henc : encList b.attrs = .ok (encRaws raws)) (hlen : lenList b.attrs = .ok (encRaws raws).length)
    (hwf : ∀ a ∈ raws, a.wf = true) (hnomp : ∀ a ∈ raws, a.tc.toNat ≠ 14 ∧ a.tc.toNat ≠ 15)
    (la lw : List (Nat × f.Val)) (hla : NlrisWf f ap la) (hlw : NlrisWf f ap lw)
    (hba : b.ann = if la.isEmpty then none else some la) (hbw : b.wd = if lw.isEmpty then none else some lw)
    (hsz : calcPduLen f ap b (encRaws raws).length ≤ 4096) :
    ∃ out m' na nw, nlIntoMessage cfg f ap b = .ok out ∧ parseUpdate cfg out = .ok m' ∧
      m'.wd = [] ∧ m'.ann = [] ∧
      annView m' f ap = reportNlris f ap la ∧ wdView m' f ap = reportNlris f ap lw ∧
      m'.announcements = .ok (reportNlris f ap la, true) ∧ m'.withdrawals = .ok (reportNlris f ap lw, true) ∧
      m'.attrs = encRaws (mpRaws f la lw na nw ++ raws) ∧ out = frame [] m'.attrs [] := by
  obtain ⟨na, hna, _, _⟩ := nlris_reported f ap la hla
  obtain ⟨nw, hnw, _, _⟩ := nlris_reported f ap lw hlw
  obtain ⟨ra1, ra2⟩ := reachAttr_eq f ap la hla na hna
  obtain ⟨ru1, ru2⟩ := unreachAttr_eq f ap lw hlw nw hnw
  obtain ⟨L, hL⟩ : ∃ L, L = mpRaws f la lw na nw ++ raws := ⟨_, rfl⟩
  obtain ⟨hAlen, hA'⟩ := optMp_written la hba (optReachLen f ap) (optAttr (reachAttr f ap)) (reachRaw f na) rfl rfl
    (by rw [optReachLen, ra1]; exact mpAttrLen_eq 14 _) ra2 (Raw.mp_wf 14 _)
  obtain ⟨hWlen, hW'⟩ := optMp_written lw hbw (optUnreachLen f ap) (optAttr (unreachAttr f ap)) (unreachRaw f nw) rfl rfl
    (by rw [optUnreachLen, ru1]; exact mpAttrLen_eq 15 _) ru2 (Raw.mp_wf 15 _)
  have hSeq : encRaws (if la.isEmpty then [] else [reachRaw f na]) ++
      (encRaws (if lw.isEmpty then [] else [unreachRaw f nw]) ++ encRaws raws) = encRaws L := by
    simp only [hL, mpRaws, encRaws, List.map_append, List.flatten_append, List.append_assoc]
  have hS := congrArg List.length hSeq
  simp only [List.length_append] at hS
  have hcalc : calcPduLen f ap b (encRaws raws).length = 23 + (encRaws L).length := by
    simp only [calcPduLen, hAlen, hWlen]
    omega
  rw [hcalc] at hsz
  obtain ⟨hA, hAwf⟩ := hA' (by omega)
  obtain ⟨hW, hWwf⟩ := hW' (by omega)
  have hfin : nlFinish f ap b = .ok (frame [] (encRaws L) []) := by
    have h1 : ¬ (23 + (encRaws L).length > 65535) := by omega
    have h2 : (encRaws raws).length + (encRaws (if la.isEmpty then [] else [reachRaw f na])).length +
        (encRaws (if lw.isEmpty then [] else [unreachRaw f nw])).length = (encRaws L).length := by
      omega
    have h3 : ¬ ((encRaws L).length > 65535) := by omega
    simp only [nlFinish, hlen, hcalc, h1, ↓reduceIte, hAlen, hWlen, h2, h3, hA, hW, henc, hSeq, frame_nil]
  have hLwf : ∀ a ∈ L, a.wf = true := by
    intro a ha
    simp only [hL, mpRaws, List.mem_append] at ha
    rcases ha with (h | h) | h
    · exact hAwf a h
    · exact hWwf a h
    · exact hwf a h
  have huniq : ∀ x ∈ L, (x.tc.toNat = 14 → x = reachRaw f na) ∧ (x.tc.toNat = 15 → x = unreachRaw f nw) := by
    intro x hx
    rcases List.mem_append.mp (hL ▸ hx) with hx | hx
    · rcases mem_mpRaws hx with ⟨_, rfl⟩ | ⟨_, rfl⟩
      · exact ⟨fun _ => rfl, fun h15 => by simp [reachRaw] at h15⟩
      · exact ⟨fun h14 => by simp [unreachRaw] at h14, fun _ => rfl⟩
    · exact ⟨fun h14 => absurd h14 (hnomp x hx).1, fun h15 => absurd h15 (hnomp x hx).2⟩
  have hLmp : MpOk L := by
    refine fun a ha => ⟨fun h14 => ?_, fun h15 => ?_⟩
    · rw [(huniq a ha).1 h14]
      exact ⟨by simp only [reachRaw, reachValue_length]; omega, by simp [reachRaw, afiSafi_reach]⟩
    · rw [(huniq a ha).2 h15]
      simp [unreachRaw, afiSafi_unreach]
  have hparse := Raw.sections_decoded cfg [] (encRaws L) [] [] _ _ (by simp; omega)
    (convValidate_nil _) (convValidate_nil _) (attrsWalk_enc L hLwf _ (encRaws_length_ge L))
    (mpScan_enc L hLwf hLmp _ none none (encRaws_length_ge L))
  simp only [List.append_nil] at hparse
  have hno14 := firstWith_none 14 raws (fun a ha => (hnomp a ha).1)
  have hno15 := firstWith_none 15 raws (fun a ha => (hnomp a ha).2)
  have hfirst14 : firstWith 14 L = if la.isEmpty then none else some (reachRaw f na) := by
    cases h1 : la.isEmpty <;> cases h2 : lw.isEmpty <;> simp [hL, mpRaws, h1, h2, firstWith, reachRaw, unreachRaw, hno14]
  have hfirst15 : firstWith 15 L = if lw.isEmpty then none else some (unreachRaw f nw) := by
    cases h1 : la.isEmpty <;> cases h2 : lw.isEmpty <;> simp [hL, mpRaws, h1, h2, firstWith, reachRaw, unreachRaw, hno15]
  have hrep_nil : ∀ (l : List (Nat × f.Val)), l.isEmpty = true → reportNlris f ap l = [] := by
    intro l hl
    rw [List.isEmpty_iff.mp hl]
    cases ap <;> rfl
  obtain ⟨m', hparse, hm, hwd, hann, hppi⟩ : ∃ m',
      parseUpdate cfg (frame [] (encRaws L) []) = .ok m' ∧ m'.attrs = encRaws L ∧
      m'.wd = [] ∧ m'.ann = [] ∧ m'.ppi = Ppi.ofCfg cfg (lastMp 14 L none) (lastMp 15 L none) :=
    ⟨_, hparse, rfl, rfl, rfl, rfl⟩
  have hreach : annView m' f ap = reportNlris f ap la ∧ m'.announcements = .ok (reportNlris f ap la, true) := by
    cases h : la.isEmpty
    · simp only [h, Bool.false_eq_true, if_false] at hfirst14
      obtain rfl : m'.ppi.mpReach = ap := by
        rw [hppi, Raw.mp_flag_of_unique 14 L _ (fun x hx => (huniq x hx).1) hfirst14]
        simp only [reachRaw, afiSafi_reach, Option.map_some, Ppi.ofCfg, hap]
      obtain ⟨b', hb1, hb2⟩ := Raw.mp_reach_reported m' L hm hLwf _ hfirst14 f (defaultNextHop f) (defaultNextHop_small f) la hla
      rw [hna] at hb1
      cases hb1
      obtain ⟨h1, h2, h3⟩ := hb2 rfl
      refine ⟨by simp only [annView, h3 (.inr hann)], ?_⟩
      simp only [Msg.announcements, h1, itemsOfOpt, h2, Msg.convAnn, hann, convItems_nil, List.append_nil, Bool.and_true]
    · simp only [h, if_true] at hfirst14
      rw [hrep_nil la h]
      exact view_reach_none m' L hm hLwf f ap hfirst14 hann
  have hunreach : wdView m' f ap = reportNlris f ap lw ∧ m'.withdrawals = .ok (reportNlris f ap lw, true) := by
    cases h : lw.isEmpty
    · simp only [h, Bool.false_eq_true, if_false] at hfirst15
      obtain rfl : m'.ppi.mpUnreach = ap := by
        rw [hppi, Raw.mp_flag_of_unique 15 L _ (fun x hx => (huniq x hx).2) hfirst15]
        simp only [unreachRaw, afiSafi_unreach, Option.map_some, Ppi.ofCfg, hap]
      obtain ⟨b', hb1, hb2⟩ := Raw.mp_unreach_reported m' L hm hLwf _ hfirst15 f lw hlw
      rw [hnw] at hb1
      cases hb1
      obtain ⟨h1, h2, h3⟩ := hb2 rfl
      refine ⟨by simp only [wdView, h3 (.inr hwd)], ?_⟩
      simp only [Msg.withdrawals, h1, itemsOfOpt, h2, Msg.convWd, hwd, convItems_nil, List.append_nil, Bool.and_true]
    · simp only [h, if_true] at hfirst15
      rw [hrep_nil lw h]
      exact view_unreach_none m' L hm hLwf f ap hfirst15 hwd
  refine ⟨_, m', na, nw, ?_, hparse, hwd, hann, hreach.1, hunreach.1, hreach.2, hunreach.2, hL ▸ hm, by rw [hm]⟩
  have hnl : ¬ (23 + (encRaws L).length > MAX_PDU) := by simp only [MAX_PDU]; omega
  simp only [nlIntoMessage, nlIsValid_opt b la lw hba hbw, Bool.not_true, Bool.false_eq_true, ↓reduceIte, hlen, hcalc, hnl,
    hfin, hparse]

end Rc.Reenc
