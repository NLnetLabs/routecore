/- Totality of the OPEN / NOTIFICATION parse path used by BMP (no `.panic`). -/
import Rc.Model.OpenParse

namespace Rc.OpenParse
open Rc

/-- `x` does not panic and, if it returns a value, the value satisfies `P`.  Each step of the cursor parser is
specified in this form, and `Ensures.seq` composes the steps the way the model writes its sequencing. -/
def Ensures {α} (x : Outcome α) (P : α → Prop) : Prop :=
  match x with
  | .ok a => P a
  | .err => True
  | .panic => False

theorem Ensures.np {α} {x : Outcome α} {P : α → Prop} (h : Ensures x P) : x ≠ .panic := by
  intro e; rw [e] at h; exact h

theorem Ensures.ok {α} {x : Outcome α} {P : α → Prop} {a : α} (h : Ensures x P) (e : x = .ok a) : P a := by
  rw [e] at h; exact h

theorem Ensures.mono {α} {x : Outcome α} {P Q : α → Prop} (h : Ensures x P) (hpq : ∀ a, P a → Q a) :
    Ensures x Q := by
  cases x with
  | ok a => exact hpq a h
  | err => trivial
  | panic => exact h

theorem Ensures.seq {β} {x : Outcome Cur} {f : Cur → Outcome β} {P : Cur → Prop} {Q : β → Prop}
    (hx : Ensures x P) (hf : ∀ c, P c → Ensures (f c) Q) :
    Ensures (match x with
      | .ok c => f c
      | .err => .err
      | .panic => .panic) Q := by
  cases x with
  | ok c => exact hf c hx
  | err => trivial
  | panic => exact hx

theorem Ensures.seq₂ {β} {x : Outcome (Nat × Cur)} {f : Nat → Cur → Outcome β} {P : Nat × Cur → Prop}
    {Q : β → Prop} (hx : Ensures x P) (hf : ∀ n c, P (n, c) → Ensures (f n c) Q) :
    Ensures (match x with
      | .ok (n, c) => f n c
      | .err => .err
      | .panic => .panic) Q := by
  cases x with
  | ok r => exact hf r.1 r.2 hx
  | err => trivial
  | panic => exact hx

theorem Ensures.seqUnit {β} {x : Outcome Unit} {y : Outcome β} {Q : β → Prop} (hx : x ≠ .panic)
    (hy : Ensures y Q) :
    Ensures (match x with
      | .ok () => y
      | .err => .err
      | .panic => .panic) Q := by
  cases x with
  | ok u => exact hy
  | err => trivial
  | panic => exact hx rfl

theorem Ensures.of_np {α} {x : Outcome α} (h : x ≠ .panic) : Ensures x fun _ => True := by
  cases x with
  | panic => exact h rfl
  | _ => trivial

theorem Ensures.ite {α} {p : Prop} [Decidable p] {x y : Outcome α} {P : α → Prop}
    (hx : p → Ensures x P) (hy : ¬ p → Ensures y P) : Ensures (if p then x else y) P := by
  split
  · exact hx ‹_›
  · exact hy ‹_›

theorem Cur.u8_spec (c : Cur) : Ensures c.u8 fun r => r.2.data = c.data ∧ r.2.pos = c.pos + 1 := by
  unfold Cur.u8
  split
  · exact ⟨rfl, rfl⟩
  · trivial

theorem Cur.u16_spec (c : Cur) : Ensures c.u16 fun r => r.2.data = c.data ∧ r.2.pos = c.pos + 2 := by
  unfold Cur.u16
  split
  · exact ⟨rfl, rfl⟩
  · trivial

theorem Cur.advance_spec (c : Cur) (n : Nat) :
    Ensures (c.advance n) fun c' => c'.data = c.data ∧ c'.pos = c.pos + n ∧ c'.pos ≤ c.data.length := by
  unfold Cur.advance
  split
  · exact ⟨rfl, rfl, ‹_›⟩
  · trivial

theorem Cur.seek_spec (c : Cur) (p : Nat) : Ensures (c.seek p) fun c' => c'.data = c.data ∧ c'.pos = p := by
  unfold Cur.seek
  split
  · exact ⟨rfl, rfl⟩
  · trivial

theorem Cur.u8_pos {c c' : Cur} {v : Nat} (h : c.u8 = .ok (v, c')) : c'.pos = c.pos + 1 :=
  ((Cur.u8_spec c).ok h).2

theorem Cur.advance_pos {c c' : Cur} {n : Nat} (h : c.advance n = .ok c') : c'.pos = c.pos + n :=
  ((Cur.advance_spec c n).ok h).2.1

theorem Cur.u8_data {c : Cur} {d : Bytes} (hc : c.data = d) : Ensures c.u8 fun r => r.2.data = d :=
  (Cur.u8_spec c).mono fun _ h => h.1.trans hc

theorem Cur.advance_data {c : Cur} {d : Bytes} (hc : c.data = d) (n : Nat) :
    Ensures (c.advance n) fun c' => c'.data = d :=
  (Cur.advance_spec c n).mono fun _ h => h.1.trans hc

theorem Cur.seek_data {c : Cur} {d : Bytes} (hc : c.data = d) (p : Nat) :
    Ensures (c.seek p) fun c' => c'.data = d :=
  (Cur.seek_spec c p).mono fun _ h => h.1.trans hc

theorem loopRead_data (k limit : Nat) {d : Bytes} (f : Nat) {c : Cur} (hc : c.data = d) :
    Ensures (loopRead k limit f c) fun c' => c'.data = d := by
  induction f generalizing c with
  | zero => exact hc
  | succ f ih =>
    unfold loopRead
    exact .ite (fun _ => (Cur.advance_data hc k).seq fun _ hc' => ih hc') fun _ => hc

theorem usub_some {a b : Nat} (h : b ≤ a) : usub a b = some (a - b) := by simp [usub, h]

theorem capContent_data (typ len start : Nat) {c : Cur} {d : Bytes} (hc : c.data = d) :
    Ensures (capContent typ len start c) fun c' => c'.data = d := by
  have fixed (n : Nat) : Ensures (if len ≠ n then .err else c.advance n) fun c' => c'.data = d :=
    .ite (fun _ => trivial) fun _ => Cur.advance_data hc n
  have empty : Ensures (if len ≠ 0 then .err else .ok c) fun c' => c'.data = d :=
    .ite (fun _ => trivial) fun _ => hc
  have orf := (Cur.advance_data hc 4).seq fun _ hc => (Cur.u8_data hc).seq₂ fun n _ hc => Cur.advance_data hc (2 * n)
  have multisession : Ensures (if len = 0 then .err else
      match c.advance 1 with
      | .ok c =>
        match usub len 1 with
        | some k => c.advance k
        | none => .panic
      | .err => .err
      | .panic => .panic) fun c' => c'.data = d :=
    .ite (fun _ => trivial) fun h0 => (Cur.advance_data hc 1).seq fun _ hc => by
      rw [usub_some (Nat.pos_of_ne_zero h0)]; exact Cur.advance_data hc _
  unfold capContent
  split
  · exact fixed 4
  · exact empty
  · exact orf
  · exact orf
  · exact loopRead_data 6 _ _ hc
  · exact empty
  · exact loopRead_data 4 _ _ hc
  · exact fixed 1
  · exact (Cur.advance_data hc 2).seq fun _ hc => loopRead_data 4 _ _ hc
  · exact fixed 4
  · exact Cur.advance_data hc len
  · exact Cur.advance_data hc len
  · exact multisession
  · exact multisession
  · exact (Cur.advance_data hc 3).seq fun _ hc => (Cur.u8_data hc).seq₂ fun _ _ hc =>
      .ite (fun _ => trivial) fun _ => hc
  · exact empty
  · exact loopRead_data 7 _ _ hc
  · exact (Cur.u8_data hc).seq₂ fun h _ hc => (Cur.advance_data hc h).seq fun _ hc =>
      (Cur.u8_data hc).seq₂ fun dl _ hc => Cur.advance_data hc dl
  · exact (Cur.u8_data hc).seq₂ fun l _ hc => Cur.advance_data hc l
  · exact Cur.advance_data hc len
  · exact .ite (fun _ => trivial) fun _ => hc
  · exact hc

/-- every site of `Capability::parse` that can panic (the `0..len-1` of the Multisession arms, an
explicit `usub` in the model) is unreachable: the `len == 0` test precedes it -/
theorem capContent_np (typ len start : Nat) (c : Cur) : capContent typ len start c ≠ .panic :=
  (capContent_data typ len start rfl).np

theorem capParse_data (c : Cur) : Ensures (capParse c) fun c' => c'.data = c.data :=
  (Cur.u8_data rfl).seq₂ fun typ _ hc => (Cur.u8_data hc).seq₂ fun len _ hc =>
    (capContent_data typ len c.pos hc).seq fun _ hc => (Cur.seek_data hc c.pos).seq fun _ hc =>
      Cur.advance_data hc (2 + len)

theorem capLoop_np (f : Nat) (c : Cur) : capLoop f c ≠ .panic := by
  induction f generalizing c with
  | zero => nofun
  | succ f ih =>
    unfold capLoop
    exact Ensures.np (P := fun _ => True) <|
      .ite (fun _ => (capParse_data c).seq fun c' _ => .of_np (ih c')) fun _ => trivial

theorem paramParse_spec (c : Cur) :
    Ensures (paramParse c) fun r => r.1.data = c.data ∧ r.1.pos = c.pos + 2 + r.2 ∧ r.1.pos ≤ c.data.length :=
  (Cur.u8_spec c).seq₂ fun typ c1 h1 => (Cur.u8_spec c1).seq₂ fun len c2 h2 =>
    Ensures.seqUnit
      (Ensures.np (P := fun _ => True) <| .ite
        (fun _ => (Cur.advance_spec c2 len).seq fun _ _ => .of_np (capLoop_np _ _)) fun _ => trivial)
      ((Cur.seek_spec c2 c.pos).seq fun c3 h3 => (Cur.advance_spec c3 (2 + len)).seq fun c4 h4 => by
        have hd : c3.data = c.data := h3.1.trans (h2.1.trans h1.1)
        exact ⟨h4.1.trans hd, by rw [h4.2.1, h3.2, Nat.add_assoc], hd ▸ h4.2.2⟩)

/-- `Parameter::parse` leaves the parser after the parameter: it never moves backwards -/
theorem paramParse_pos {c c' : Cur} {len : Nat} (h : paramParse c = .ok (c', len)) : c.pos ≤ c'.pos := by
  have : c'.pos = c.pos + 2 + len := ((paramParse_spec c).ok h).2.1
  omega

theorem paramLoop_spec (f left : Nat) (c : Cur) : Ensures (paramLoop f left c) fun c' => c.pos ≤ c'.pos := by
  induction f generalizing left c with
  | zero => exact Nat.le_refl _
  | succ f ih =>
    unfold paramLoop
    refine .ite (fun _ => Nat.le_refl _) fun _ => ?_
    have hp := paramParse_spec c
    generalize paramParse c = x at hp
    cases x with
    | ok r =>
      have hle : c.pos ≤ r.1.pos := by have := hp.2.1; omega
      exact .ite (fun _ => (ih _ r.1).mono fun _ h => Nat.le_trans hle h) fun _ => trivial
    | err => trivial
    | panic => exact hp

theorem paramLoop_pos (f left : Nat) (c c' : Cur) (h : paramLoop f left c = .ok c') : c.pos ≤ c'.pos :=
  (paramLoop_spec f left c).ok h

theorem headerParse_spec (c : Cur) : Ensures (headerParse c) fun r => r.2.pos = c.pos + 19 :=
  .ite (fun _ => .ite
    (fun _ => (Cur.u16_spec _).seq₂ fun len c1 h1 => (Cur.u8_spec c1).seq₂ fun _ c2 h2 => by
      show c2.pos = c.pos + 19; simp only at h1 h2; omega)
    fun _ => trivial) fun _ => trivial

theorem headerParse_pos {c c' : Cur} {l : Nat} (h : headerParse c = .ok (l, c')) : c'.pos = c.pos + 19 :=
  (headerParse_spec c).ok h

/-- `OpenMessage::parse` never panics and stays inside its buffer.  Its one panic-capable site, the `usize`
subtraction `end - pos` (open.rs:310, `usub` in the model), is unreachable because every step before it moves
the parser forwards. -/
theorem openParseCur_spec (c : Cur) : Ensures (openParseCur c) fun c' => c'.pos ≤ c.data.length :=
  (headerParse_spec c).seq₂ fun hlen c1 h1 => (Cur.advance_spec c1 9).seq fun c2 h2 =>
    (Cur.u8_spec c2).seq₂ fun opl c3 h3 => .ite (fun _ => trivial) fun _ =>
      (paramLoop_spec (opl + 1) opl c3).seq fun c4 h4 => by
        have : c.pos ≤ c4.pos := by simp only at h1 h3; omega
        rw [usub_some this]
        exact .ite (fun _ => trivial) fun _ => (Cur.seek_spec c c.pos).seq fun c5 h5 =>
          (Cur.advance_spec c5 hlen).mono fun c6 h6 => h5.1 ▸ h6.2.2

theorem openParse_spec (bs : Bytes) : Ensures (openParse bs) fun n => n ≤ bs.length :=
  (openParseCur_spec ⟨bs, 0⟩).seq fun _ h => h

/-- `OpenMessage::parse` never panics, for every byte string -/
theorem openParse_np (bs : Bytes) : openParse bs ≠ .panic :=
  (openParse_spec bs).np

/-- `OpenMessage::parse` consumes no more than it was given -/
theorem openParse_le (bs : Bytes) (n : Nat) (h : openParse bs = .ok n) : n ≤ bs.length :=
  (openParse_spec bs).ok h

/-- `NotificationMessage::parse` never panics, for every byte string -/
theorem notifParse_np (bs : Bytes) : notifParse bs ≠ .panic :=
  Ensures.np (P := fun _ => True) <| (headerParse_spec ⟨bs, 0⟩).seq₂ fun _ c _ =>
    .ite (fun _ => trivial) fun _ => (Cur.advance_spec c 2).seq fun _ _ =>
      .ite (fun _ => trivial) fun _ => trivial

end Rc.OpenParse
