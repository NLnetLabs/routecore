/-
Bridging lemmas for the concrete C09 decoder (`Rc/Model/SessionDecode.lean`): `Header::parse` and
`Message::from_octets` in closed form / by inversion, the decoder's totality, derived from the totality
theorems of C02 (`parse_total`) and C03 (`open_decode_total`, `open_accessors_total`, `notif_total`,
`keepalive_total`, `rr_total`), and the agreement of the framing model's own header step
(`Rc.Framing.decodeMsg`) with `Header::parse` as C03 models it.
-/
import Rc.Model.SessionDecode
import Rc.Lemmas.Framing
import Rc.Thm.C02
import Rc.Thm.C03

namespace Rc.SessionDecode
open Rc Rc.Framing

theorem headerParse_eq (bs : Bytes) :
    Open.headerParse bs =
      if 19 ≤ bs.length ∧ bs.take 16 = Open.marker then some (lenField bs, bs.getD 18 0, bs.drop 19) else none := by
  unfold Open.headerParse takeN
  by_cases h : 19 ≤ bs.length ∧ bs.take 16 = Open.marker
  · have hd : bs.drop 16 = bs[16] :: bs[17] :: bs[18] :: bs.drop 19 := by
      rw [List.drop_eq_getElem_cons (by omega), List.drop_eq_getElem_cons (by omega),
        List.drop_eq_getElem_cons (by omega)]
    have g : ∀ i (hi : i < bs.length), bs.getD i 0 = bs[i] := fun i hi => by simp [List.getD, hi]
    rw [if_pos h, if_pos (by omega)]
    dsimp only
    rw [if_neg (not_not_intro h.2), hd, lenField, g 16, g 17, g 18]
    rfl
  · rw [if_neg h]
    by_cases h16 : 16 ≤ bs.length
    · rw [if_pos h16]
      dsimp only
      by_cases hm : bs.take 16 = Open.marker
      · -- the marker is there: fewer than three octets follow it
        have hl : (bs.drop 16).length < 3 := by
          rw [List.length_drop]
          have := mt (fun h19 => And.intro h19 hm) h
          omega
        rw [if_neg (not_not_intro hm)]
        match bs.drop 16, hl with
        | [], _ | [_], _ | [_, _], _ => rfl
      · rw [if_pos hm]
    · rw [if_neg h16]

/-- the BGP message type (RFC 4271 4.1) of a decoded message: the type `Message::from_octets` dispatched on -/
def typeOfMsg : BgpMsg → Nat
  | .open _ => 1 | .update _ => 2 | .notification _ => 3 | .keepalive _ => 4 | .routeRefresh _ => 5

def DecodedAs (cfg : Upd.Cfg) (bs : Bytes) : BgpMsg → Prop
  | .open m => Open.fromOctets bs = .ok m
  | .update m => Upd.parseUpdate cfg bs = .ok m
  | .notification m => Notif.fromOctets bs = .ok m
  | .keepalive m => Notif.kaFromOctets bs = .ok m
  | .routeRefresh m => Notif.rrFromOctets bs = .ok m

theorem msgFromOctets_ok {cfg : Upd.Cfg} {bs : Bytes} {m : BgpMsg} (h : msgFromOctets cfg bs = .ok m) :
    (19 ≤ bs.length ∧ bs.take 16 = Open.marker) ∧ (bs.getD 18 0).toNat = typeOfMsg m ∧ DecodedAs cfg bs m := by
  unfold msgFromOctets at h
  rw [headerParse_eq] at h
  by_cases hh : 19 ≤ bs.length ∧ bs.take 16 = Open.marker
  · rw [if_pos hh] at h
    refine ⟨hh, ?_⟩
    dsimp only at h
    generalize (bs.getD 18 0).toNat = t at h ⊢
    match t, h with
    | 1, h => cases hx : Open.fromOctets bs <;> rw [hx] at h <;> cases h; exact ⟨rfl, hx⟩
    | 2, h => cases hx : Upd.parseUpdate cfg bs <;> rw [hx] at h <;> cases h; exact ⟨rfl, hx⟩
    | 3, h => cases hx : Notif.fromOctets bs <;> rw [hx] at h <;> cases h; exact ⟨rfl, hx⟩
    | 4, h => cases hx : Notif.kaFromOctets bs <;> rw [hx] at h <;> cases h; exact ⟨rfl, hx⟩
    | 5, h => cases hx : Notif.rrFromOctets bs <;> rw [hx] at h <;> cases h; exact ⟨rfl, hx⟩
  · rw [if_neg hh] at h
    cases h

theorem msgFromOctets_ne_panic (cfg : Upd.Cfg) (bs : Bytes) : msgFromOctets cfg bs ≠ .panic := by
  unfold msgFromOctets
  cases Open.headerParse bs with
  | none => nofun
  | some p =>
    dsimp only
    split
    · exact okOrErr (Rc.Thm.C03.open_decode_total bs) (fun _ => nofun) nofun
    · exact okOrErr (Rc.Thm.C02.parse_total cfg bs) (fun _ => nofun) nofun
    · exact okOrErr (Rc.Thm.C03.notif_total bs).1 (fun _ => nofun) nofun
    · exact okOrErr (Rc.Thm.C03.keepalive_total bs) (fun _ => nofun) nofun
    · exact okOrErr (Rc.Thm.C03.rr_total bs) (fun _ => nofun) nofun
    · nofun

theorem msgFromOctets_rrEncode (cfg : Upd.Cfg) (x : Notif.RouteRefresh) (ha : x.afi < 65536) (hs : x.safi < 256)
    (ht : x.subtype < 256) : msgFromOctets cfg (Notif.rrEncode x) = .ok (.routeRefresh x) := by
  have hd := Rc.Thm.C03.rr_decode_encode x ha hs ht
  simp only [Notif.rrEncode, List.append_assoc] at hd ⊢
  simp only [msgFromOctets, Open.headerParse_header 23 5 _ (by decide), show (5 : UInt8).toNat = 5 from rfl, hd]

/-- `identifier()[0..4].try_into().unwrap()` cannot fail once `identifier()` did not -/
theorem idArray_ne_panic (m : Bytes) (h : Open.identifier m ≠ .panic) : idArray m ≠ .panic := by
  have hc : 24 ≤ 28 ∧ 28 ≤ m.length := by
    unfold Open.identifier Open.slice at h
    split at h
    · assumption
    · exact absurd rfl h
  have hl : ((m.drop 24).take (28 - 24)).length = 4 := by simp; omega
  simp [idArray, Open.identifier, Open.slice, hc, hl]

/-- the accessors `handle_msg` and the OPEN-accepting arms call (of the 13 of C03 `open_accessors_total`) -/
theorem open_accessors_ne_panic {bs m : Bytes} (h : Open.fromOctets bs = .ok m) :
    Open.myAsn m ≠ .panic ∧ Open.holdtime m ≠ .panic ∧ Open.addpathFamiliesVec m ≠ .panic ∧
    Open.identifier m ≠ .panic ∧ Open.fourOctetCapable m ≠ .panic := by
  obtain ⟨_, _, _, hh, hi, _, _, _, ha, hf, _, hap, _⟩ := Rc.Thm.C03.open_accessors_total bs m h
  exact ⟨ha, hh, hap, hi, hf⟩

theorem openFacts_ne_panic (bs m : Bytes) (asn : Nat) (h : Open.fromOctets bs = .ok m) :
    openFacts m asn ≠ .panic := by
  obtain ⟨ha, hh, hap, hi, hf⟩ := open_accessors_ne_panic h
  unfold openFacts
  refine okOrErr hap (fun _ => ?_) nofun
  refine okOrErr hh (fun _ => ?_) nofun
  refine okOrErr (idArray_ne_panic m hi) (fun _ => ?_) nofun
  refine okOrErr ha (fun _ => ?_) nofun
  exact okOrErr hf (fun _ => nofun) nofun

theorem toWire_ne_panic (sc : SessCfg) (bs : Bytes) (m : BgpMsg) (h : msgFromOctets sc.cfg bs = .ok m) :
    toWire sc.asnAllowed m ≠ .panic := by
  have hd := (msgFromOctets_ok h).2.2
  cases m with
  | update _ | keepalive _ | routeRefresh _ => nofun
  | «open» o =>
    rw [toWire]
    refine okOrErr (open_accessors_ne_panic hd).1 (fun asn => ?_) nofun
    dsimp only
    split
    · nofun
    · exact okOrErr (openFacts_ne_panic bs o asn hd) (fun _ => nofun) nofun
  | notification n =>
    rw [toWire]
    exact okOrErr ((Rc.Thm.C03.notif_total bs).2 n hd).2.1 (fun _ => nofun) nofun

/-- **The concrete decoder is total**: for every session configuration and every byte string the
composition "`Message::from_octets` with the connection's `SessionConfig`, then the accessors
`handle_msg` / `handle_event` call on the result" returns `Ok` or `Err`, never panics. -/
theorem sessionBody_ne_panic (sc : SessCfg) (f : Bytes) : sessionBody sc f ≠ .panic := by
  unfold sessionBody
  cases h : msgFromOctets sc.cfg f with
  | panic => exact absurd h (msgFromOctets_ne_panic sc.cfg f)
  | err => simp
  | ok m => exact toWire_ne_panic sc f m h

/-- **Header agreement**: the header step of the framing model (`Rc.Framing.decodeMsg`: marker,
length ≥ 19, type octet 1..5) followed by the concrete decoder is the concrete decoder – the
framing model and `Message::from_octets` as composed from the C02/C03 models describe the same
function of the frame. -/
theorem decodeMsg_sessionBody (sc : SessCfg) (f : Bytes) :
    decodeMsg (sessionBody sc) f = sessionBody sc f := by
  rw [decodeMsg_eq]
  split
  · rfl
  · -- the header test failed: `Message::from_octets` returns no message either
    rename_i hn
    unfold sessionBody
    cases h : msgFromOctets sc.cfg f with
    | panic => exact absurd h (msgFromOctets_ne_panic sc.cfg f)
    | err => rfl
    | ok m =>
      obtain ⟨⟨h19, hm⟩, ht, _⟩ := msgFromOctets_ok h
      exact absurd ⟨h19, hm, by rw [ht]; cases m <;> simp [typeOfMsg]⟩ hn

end Rc.SessionDecode
