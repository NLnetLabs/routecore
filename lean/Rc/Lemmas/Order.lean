/-
Comparisons `α → α → Ordering` (Rust: `Ord::cmp`) as strict weak orders, and the
combinators a `then_with` chain is built from.  Used by Thm/C10 and Thm/C11.
Core Lean only.
-/
namespace Rc.Order

variable {α β : Type}

def Antisym (cmp : α → α → Ordering) : Prop := ∀ a b, cmp b a = (cmp a b).swap

namespace Antisym

theorem refl {cmp : α → α → Ordering} (h : Antisym cmp) (a : α) : cmp a a = .eq := by
  have := h a a
  cases hc : cmp a a <;> simp [hc, Ordering.swap] at this ⊢

theorem gt_iff {cmp : α → α → Ordering} (h : Antisym cmp) {a b : α} : cmp a b = .gt ↔ cmp b a = .lt := by
  rw [h a b]; cases cmp a b <;> simp [Ordering.swap]

theorem eq_of_not_lt {cmp : α → α → Ordering} (h : Antisym cmp) {a b : α} (h1 : cmp a b ≠ .lt) (h2 : cmp b a ≠ .lt) :
    cmp a b = .eq := by
  cases e : cmp a b with
  | lt => exact absurd e h1
  | eq => rfl
  | gt => exact absurd (h.gt_iff.1 e) h2

theorem ofNat (f : α → Nat) : Antisym (fun a b => compare (f a) (f b)) :=
  fun a b => (Nat.compare_swap (f a) (f b)).symm

theorem rev {cmp : α → α → Ordering} (h : Antisym cmp) : Antisym (fun a b => cmp b a) := fun a b => h b a

theorem const : Antisym (fun (_ _ : α) => Ordering.eq) := fun _ _ => rfl

theorem andThen {c1 c2 : α → α → Ordering} (h1 : Antisym c1) (h2 : Antisym c2) :
    Antisym (fun a b => (c1 a b).then (c2 a b)) := fun a b => by
  show (c1 b a).then (c2 b a) = ((c1 a b).then (c2 a b)).swap
  rw [Ordering.swap_then, ← h1, ← h2]

theorem pullback {cmp : α → α → Ordering} (h : Antisym cmp) (f : β → α) : Antisym (fun x y => cmp (f x) (f y)) :=
  fun x y => h (f x) (f y)

end Antisym

/-- A comparison is a strict weak order: `lt` is irreflexive and transitive, and
`eq` ("equally preferred") is an equivalence (reflexive by `swap`, symmetric by
`swap`, transitive).  Compatibility of `eq` with `lt` follows (`lt_eq`, `eq_lt`). -/
structure WeakOrd (cmp : α → α → Ordering) : Prop where
  swap : ∀ a b, cmp b a = (cmp a b).swap
  lt_trans : ∀ a b c, cmp a b = .lt → cmp b c = .lt → cmp a c = .lt
  eq_trans : ∀ a b c, cmp a b = .eq → cmp b c = .eq → cmp a c = .eq

namespace WeakOrd
variable {cmp : α → α → Ordering}

theorem antisym (h : WeakOrd cmp) : Antisym cmp := h.swap

theorem refl (h : WeakOrd cmp) (a : α) : cmp a a = .eq := h.antisym.refl a

theorem gt_iff (h : WeakOrd cmp) {a b : α} : cmp a b = .gt ↔ cmp b a = .lt := h.antisym.gt_iff

theorem eq_symm (h : WeakOrd cmp) {a b : α} (e : cmp a b = .eq) : cmp b a = .eq := by
  rw [h.swap a b, e]; rfl

theorem rev (h : WeakOrd cmp) : WeakOrd (fun a b => cmp b a) where
  swap a b := h.swap b a
  lt_trans a b c h1 h2 := h.lt_trans c b a h2 h1
  eq_trans a b c h1 h2 := h.eq_trans c b a h2 h1

theorem lt_eq (h : WeakOrd cmp) {a b c : α} (h1 : cmp a b = .lt) (h2 : cmp b c = .eq) : cmp a c = .lt := by
  cases hac : cmp a c with
  | lt => rfl
  | eq =>
    have := h.eq_trans a c b hac (h.eq_symm h2)
    rw [h1] at this; cases this
  | gt =>
    have := h.lt_trans c a b (h.gt_iff.1 hac) h1
    rw [h.eq_symm h2] at this; cases this

theorem eq_lt (h : WeakOrd cmp) {a b c : α} (h1 : cmp a b = .eq) (h2 : cmp b c = .lt) : cmp a c = .lt :=
  h.rev.lt_eq h2 h1

theorem not_lt_trans (h : WeakOrd cmp) {a b c : α} (h1 : cmp c b ≠ .lt) (h2 : cmp b a ≠ .lt) : cmp c a ≠ .lt := by
  intro hca
  have hbc : cmp b c ≠ .lt := fun e => h2 (h.lt_trans b c a e hca)
  exact h2 (h.eq_lt (h.eq_symm (h.antisym.eq_of_not_lt h1 hbc)) hca)

theorem ofNat (f : α → Nat) : WeakOrd (fun a b => compare (f a) (f b)) where
  swap := Antisym.ofNat f
  lt_trans a b c h1 h2 := by
    rw [Nat.compare_eq_lt] at *; omega
  eq_trans a b c h1 h2 := by
    rw [Nat.compare_eq_eq] at *; omega

theorem const : WeakOrd (fun (_ _ : α) => Ordering.eq) where
  swap _ _ := rfl
  lt_trans _ _ _ h _ := h
  eq_trans _ _ _ _ _ := rfl

theorem pullback (h : WeakOrd cmp) (f : β → α) : WeakOrd (fun x y => cmp (f x) (f y)) where
  swap x y := h.swap (f x) (f y)
  lt_trans x y z := h.lt_trans (f x) (f y) (f z)
  eq_trans x y z := h.eq_trans (f x) (f y) (f z)

/-- lexicographic combination = Rust's `then_with` -/
theorem andThen {c1 c2 : α → α → Ordering} (h1 : WeakOrd c1) (h2 : WeakOrd c2) :
    WeakOrd (fun a b => (c1 a b).then (c2 a b)) where
  swap := h1.antisym.andThen h2.antisym
  lt_trans a b c hab hbc := by
    simp only [Ordering.then_eq_lt] at *
    rcases hab with hab | ⟨hab, hab'⟩ <;> rcases hbc with hbc | ⟨hbc, hbc'⟩
    · exact .inl (h1.lt_trans a b c hab hbc)
    · exact .inl (h1.lt_eq hab hbc)
    · exact .inl (h1.eq_lt hab hbc)
    · exact .inr ⟨h1.eq_trans a b c hab hbc, h2.lt_trans a b c hab' hbc'⟩
  eq_trans a b c hab hbc := by
    simp only [Ordering.then_eq_eq] at *
    exact ⟨h1.eq_trans a b c hab.1 hbc.1, h2.eq_trans a b c hab.2 hbc.2⟩

end WeakOrd

end Rc.Order
