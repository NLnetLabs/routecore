/-
Lemmas for `Rc.Thm.C01.decode_encode`, part 4: the encoding of a well-formed
typed content is accepted, and the accepted message's observation is the
expected one – all fields at once.
-/
import Rc.Lemmas.UpdateMp

namespace Rc.Upd
open Rc Rc.Nlri Rc.Attr Rc.AsPath

variable {cfg : Cfg} {c : TContent} {m : Msg}

theorem Ctx.observe_eq (h : Ctx cfg c m) : observeMsg m = expected cfg c := by
  obtain ⟨l1, l2, l3⟩ := h.lengths
  apply Observation.ext <;> simp only [observeMsg]
  · exact l1
  · exact l2
  · exact l3
  · exact h.pathAttrs
  · exact h.owned
  · exact h.convWd_expected
  · exact h.convAnn_expected
  · exact h.mpWd
  · exact h.mpAnn
  · exact h.withdrawals
  · exact h.announcements
  · exact h.wdVec
  · exact h.annVec
  · exact funext h.typedWd
  · exact funext h.typedAnn
  · exact h.afiSafis
  · exact h.isEor
  · exact h.origin
  · exact h.aspath
  · exact h.as4path
  · exact h.convNextHop
  · exact h.mpNextHop
  · exact h.findNextHop
  · exact h.med
  · exact h.localPref
  · exact h.isAtomicAggregate
  · exact h.aggregator
  · exact h.communities
  · exact h.extCommunities
  · exact h.ipv6ExtCommunities
  · exact h.largeCommunities
  · exact h.allCommunities

/-- the clause of `WfContent` about repeated MP attributes holds of a sequence in which no two attributes share
type 14 or type 15 -/
theorem mpUnique_of_pairwise (l : List AttrC)
    (h : l.Pairwise fun a b => a.code = b.code → ¬ (a.code = 14 ∨ a.code = 15)) :
    ∀ a ∈ l, ∀ b ∈ l, a.code = b.code → (a.code = 14 ∨ a.code = 15) → a = b := by
  induction h with
  | nil => intro a ha; cases ha
  | cons hx _ ih =>
    intro a ha b hb hc hmp
    rcases List.mem_cons.mp ha with rfl | ha' <;> rcases List.mem_cons.mp hb with rfl | hb'
    · rfl
    · exact absurd hmp (hx b hb' hc)
    · exact absurd (hc ▸ hmp : b.code = 14 ∨ b.code = 15) (hx a ha' hc.symm)
    · exact ih a ha' b hb' hc hmp

theorem mpOk_raws (cfg : Cfg) (c : TContent) (hk : ∀ a ∈ c.attrs, a.kindOk cfg) : MpOk (c.raws cfg) := by
  intro r hr
  obtain ⟨a, ha, rfl⟩ := List.mem_map.mp hr
  have hka := hk a ha
  simp only [AttrC.rawOf, a.code_toNat]
  constructor
  · intro hc
    rcases code14_reach hka hc with ⟨fl, f, nh, rsv, nlri, rfl⟩ | ⟨fl, k, nh, rsv, body, rfl⟩
    · obtain ⟨b, -, hv, -⟩ := reach_value (fl := fl) (nh := nh) (rsv := rsv) hka.1
      rw [hv]
      exact ⟨by simp [mpReachValue]; omega, by rw [afiSafi_mpReach_famCode]; rfl⟩
    · exact ⟨by simp [reachU_value, mpReachValue]; omega,
        by rw [reachU_value, afiSafi_mpReach k hka.2.1 hka.2.2.1]; rfl⟩
  · intro hc
    rcases code15_unreach hka hc with ⟨fl, f, nlri, rfl⟩ | ⟨fl, k, body, rfl⟩
    · obtain ⟨b, -, hv, -⟩ := unreach_value (fl := fl) hka
      rw [hv, afiSafi_unreach]; rfl
    · rw [unreachU_value, afiSafi_mpUnreach k hka.2.1 hka.2.2]; rfl

theorem parse_encoded (cfg : Cfg) (c : TContent) (hw : WfContent cfg c) :
    ∃ bs, encUpdateT cfg c = .ok bs ∧
      (bs.length < 65536 → ∀ trail, ∃ m, parseUpdate cfg (bs ++ trail) = .ok m ∧ Ctx cfg c m) := by
  have hk : ∀ a ∈ c.attrs, a.kindOk cfg := fun a ha => (hw.2.2.1 a ha).1
  have hlow : c.lower cfg = .ok ⟨c.wd, c.raws cfg, c.ann⟩ := by
    simp [TContent.lower, lowerAll_ok cfg c.attrs hk, TContent.raws]
  have hwu : WfUpdate cfg ⟨c.wd, c.raws cfg, c.ann⟩ := ⟨hw.1, hw.2.1, raws_wf hw, mpOk_raws cfg c hk⟩
  obtain ⟨bs, hbs, hdec⟩ := Raw.decode_encode_partial cfg _ hwu
  refine ⟨bs, by simp [encUpdateT, hlow, hbs], ?_⟩
  intro hlen trail
  obtain ⟨m, hm, _, ⟨w, a, hw1, ha1, hmw, hma, _⟩, _, hcw, hca, hpa, hat, hppi⟩ := hdec hlen trail
  exact ⟨m, hm, ⟨hw, by rw [hmw]; exact hw1, by rw [hma]; exact ha1, hat, hpa, hppi, hcw, hca⟩⟩

end Rc.Upd
