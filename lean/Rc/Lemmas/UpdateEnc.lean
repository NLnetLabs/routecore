/-
Lemmas for C01: what the decoder model does on the output of the reference
encoder (Rc/Model/UpdateEnc.lean), piece by piece.
-/
import Rc.Lemmas.Update
import Rc.Model.UpdateEnc

namespace Rc.Upd
open Rc Rc.Nlri Rc.Attr

theorem nlri_collect_of_decAll {α : Type} (c : Codec α) (f : Nat) (bs : Bytes) (ns : List α)
    (h : decAllFuel c f bs = .ok (ns, true)) (k : Nat) :
    collect (nlriNext c) (f + k) bs = (ns.map Outcome.ok, true) := by
  fun_induction decAllFuel c f bs generalizing ns
  case case1 t => cases h; cases t + k <;> rfl
  case case3 f b bs n r hd ns' e hr ih =>
    cases h
    have hn : nlriNext c (b :: bs) = some (.ok n, r) := by simp only [nlriNext, hd]
    rw [Nat.succ_add]
    simp only [collect, hn, ih ns' hr, List.map_cons]
  all_goals cases h

theorem nlriItems_of_decAll {α : Type} (c : Codec α) (bs : Bytes) (ns : List α)
    (h : Nlri.decAll c bs = .ok (ns, true)) : nlriItems c bs = (ns.map Outcome.ok, true) :=
  nlri_collect_of_decAll c _ bs ns h 1

/-- **NLRI lists are reported as encoded**, for every family with and without
path identifiers: the iterator over the encoded list yields exactly the list,
every item `Ok`, and ends; the validation loop accepts it. -/
theorem nlris_reported (f : Fam) (ap : Bool) (l : List (Nat × f.Val)) (hw : NlrisWf f ap l) :
    ∃ b, encNlris f ap l = .ok b ∧ famItems f ap b = (reportNlris f ap l, true) ∧
      (if ap then nlriValidate (codecAp f) b else nlriValidate (codec f) b) = .ok () := by
  cases ap with
  | true =>
    obtain ⟨b, hb, hd⟩ := (codecAp_laws f).list_roundtrip l hw
    refine ⟨b, hb, ?_, by simp only [↓reduceIte, nlriValidate, hd]⟩
    simp only [famItems, ↓reduceIte, nlriItems_of_decAll _ _ _ hd, reportNlris, List.map_map]
    rfl
  | false =>
    obtain ⟨b, hb, hd⟩ := (codec_laws f).list_roundtrip (l.map (·.2))
      (by intro n hn; obtain ⟨x, hx, rfl⟩ := List.mem_map.mp hn; exact hw x hx)
    refine ⟨b, hb, ?_, by simp only [Bool.false_eq_true, ↓reduceIte, nlriValidate, hd]⟩
    simp only [famItems, Bool.false_eq_true, ↓reduceIte, nlriItems_of_decAll _ _ _ hd, reportNlris, List.map_map]
    rfl

theorem splitAttr_encRaw (a : RawAttr) (hw : a.wf = true) (rest : Bytes) :
    splitAttr (encRaw a ++ rest) = some (a.fl, a.tc, a.v, rest) := by
  unfold encRaw RawAttr.wf at *
  by_cases hx : extBit a.fl = true
  · simp only [hx, ↓reduceIte, decide_eq_true_eq] at hw ⊢
    simp only [List.cons_append, List.append_assoc, splitAttr, hx, ↓reduceIte, rd16_be16 _ hw, takeN_append]
  · simp only [hx, Bool.false_eq_true, ↓reduceIte, decide_eq_true_eq] at hw ⊢
    simp only [List.cons_append, splitAttr, hx, Bool.false_eq_true, ↓reduceIte, rd8, UInt8.toNat_ofNat_of_lt' hw,
      takeN_append]

theorem encRaw_length_ge (a : RawAttr) : 3 ≤ (encRaw a).length := by
  unfold encRaw; split <;> simp <;> omega

theorem paNext_encRaw (four : Bool) (a : RawAttr) (hw : a.wf = true) (rest : Bytes) :
    paNext four (encRaw a ++ rest) = some (.ok (classify four a.fl a.tc a.v), rest) :=
  paNext_of_split four _ _ _ _ _ (splitAttr_encRaw a hw rest)

theorem uncheckedNext_encRaw (a : RawAttr) (hw : a.wf = true) (rest : Bytes) :
    uncheckedNext (encRaw a ++ rest) = some (encRaw a, rest) := by
  unfold encRaw RawAttr.wf at *
  by_cases hx : extBit a.fl = true
  · simp only [hx, ↓reduceIte, decide_eq_true_eq] at hw ⊢
    simp only [be16, List.cons_append, List.nil_append, uncheckedNext, hx, ↓reduceIte, be16_value hw, takeN_append]
  · simp only [hx, Bool.false_eq_true, ↓reduceIte, decide_eq_true_eq] at hw ⊢
    simp only [List.cons_append, uncheckedNext, hx, Bool.false_eq_true, ↓reduceIte, UInt8.toNat_ofNat_of_lt' hw,
      takeN_append]

theorem epa_encRaw (a : RawAttr) (hw : a.wf = true) :
    epaCode (encRaw a) = .ok a.tc ∧ epaLength (encRaw a) = .ok a.v.length ∧ epaValue (encRaw a) = .ok a.v := by
  have hu := uncheckedNext_encRaw a hw []
  rw [List.append_nil] at hu
  obtain ⟨fl, tc, v, hs, -, -, hc, hl, hv⟩ := uncheckedNext_spec hu
  have := splitAttr_encRaw a hw []
  rw [List.append_nil, hs] at this
  cases this
  exact ⟨hc, hl, hv⟩

theorem encRaws_cons (a : RawAttr) (l : List RawAttr) : encRaws (a :: l) = encRaw a ++ encRaws l := rfl

theorem encRaws_append (a b : List RawAttr) : encRaws (a ++ b) = encRaws a ++ encRaws b := by
  simp [encRaws]

theorem encRaws_length_ge (l : List RawAttr) : l.length ≤ (encRaws l).length := by
  induction l with
  | nil => exact Nat.le_refl 0
  | cons a r ih =>
    rw [encRaws_cons, List.length_append, List.length_cons]
    have := encRaw_length_ge a
    omega

theorem encRaws_eq_nil {l : List RawAttr} : encRaws l = [] ↔ l = [] := by
  refine ⟨fun h => List.eq_nil_of_length_eq_zero (Nat.le_zero.mp ?_), fun h => h ▸ rfl⟩
  have := encRaws_length_ge l
  rwa [h] at this

/-- Induction for a walk with fuel over the encoding of well-formed attributes: each attribute
takes at least one octet, so `l.length` rounds are enough. -/
theorem encRaws_induct {P : Nat → List RawAttr → Prop} (nil : ∀ f, P f [])
    (cons : ∀ f a r, a.wf = true → P f r → P (f + 1) (a :: r)) :
    ∀ l, (∀ a ∈ l, a.wf = true) → ∀ f, l.length ≤ f → P f l := by
  intro l
  induction l with
  | nil => exact fun _ f _ => nil f
  | cons a r ih =>
    intro hw f hf
    obtain ⟨ha, hr⟩ := List.forall_mem_cons.1 hw
    match f, hf with
    | g + 1, hf => exact cons g a r ha (ih hr g (Nat.le_of_succ_le_succ hf))

theorem pa_collect_enc (four : Bool) : ∀ (l : List RawAttr), (∀ a ∈ l, a.wf = true) →
    ∀ f, l.length ≤ f →
      collect (paNext four) f (encRaws l) = (l.map (fun a => .ok (classify four a.fl a.tc a.v)), true) := by
  refine encRaws_induct (fun f => by cases f <;> rfl) fun f a r ha ih => ?_
  simp only [collect, encRaws_cons, paNext_encRaw four a ha (encRaws r), ih, List.map_cons]

theorem attrsWalk_enc : ∀ (l : List RawAttr), (∀ a ∈ l, a.wf = true) →
    ∀ f, l.length ≤ f → attrsWalk f (encRaws l) = .ok () := by
  refine encRaws_induct (fun f => by cases f <;> rfl) fun f a r ha ih => ?_
  have hne : (encRaw a ++ encRaws r).isEmpty = false :=
    List.isEmpty_eq_false_iff.mpr (mt (encRaws_eq_nil (l := a :: r)).mp (List.cons_ne_nil a r))
  have hp : ∃ w, parseWire true (encRaw a ++ encRaws r) = .ok (w, encRaws r) := by
    simp only [parseWire, splitAttr_encRaw a ha (encRaws r)]
    split <;> exact ⟨_, rfl⟩
  obtain ⟨w, hwp⟩ := hp
  rw [attrsWalk, encRaws_cons]
  simp only [hne, Bool.false_eq_true, ↓reduceIte, hwp]
  exact ih

/-- AFI/SAFI of the last attribute of type `code` (each later one overwrites) -/
def lastMp (code : Nat) : List RawAttr → Option (Nat × Nat) → Option (Nat × Nat)
  | [], acc => acc
  | a :: r, acc => lastMp code r (if a.tc.toNat = code then (afiSafi a.v).map (·.1) else acc)

/-- what `mpScan` (the parser's second attribute loop) demands of the MP attributes: AFI/SAFI can be
read, an MP_REACH_NLRI has at least five octets -/
def MpOk (l : List RawAttr) : Prop :=
  ∀ a ∈ l, (a.tc.toNat = 14 → 5 ≤ a.v.length ∧ (afiSafi a.v).isSome = true) ∧
    (a.tc.toNat = 15 → (afiSafi a.v).isSome = true)

theorem lastMp_none (code : Nat) : ∀ (l : List RawAttr) (acc : Option (Nat × Nat)),
    (∀ x ∈ l, x.tc.toNat ≠ code) → lastMp code l acc = acc := by
  intro l
  induction l with
  | nil => intro acc _; rfl
  | cons a t ih =>
    intro acc h
    simp only [lastMp, h a (by simp), ↓reduceIte]
    exact ih acc (fun x hx => h x (by simp [hx]))

theorem mpScan_enc : ∀ (l : List RawAttr), (∀ a ∈ l, a.wf = true) → MpOk l →
    ∀ f r u, l.length ≤ f → mpScan f (encRaws l) r u = .ok (lastMp 14 l r, lastMp 15 l u) := by
  refine fun l hw hm f r u hf => encRaws_induct 
    (P := fun f l => MpOk l → ∀ r u, mpScan f (encRaws l) r u = .ok (lastMp 14 l r, lastMp 15 l u))
    (fun f _ r u => by cases f <;> rfl) (fun f a t ha ih hm r u => ?_) l hw f hf hm r u
  obtain ⟨hc, hl, hv⟩ := epa_encRaw a ha
  have iht := ih fun x hx => hm x (by simp [hx])
  have hma := hm a (by simp)
  simp only [mpScan, encRaws_cons, uncheckedNext_encRaw a ha (encRaws t), hc, hl, hv, lastMp]
  by_cases h14 : a.tc.toNat = 14
  · obtain ⟨h5, hsome⟩ := hma.1 h14
    obtain ⟨p, hx⟩ := Option.isSome_iff_exists.mp hsome
    simp only [h14, ↓reduceIte, Nat.not_lt.mpr h5, hx, Option.map_some, Nat.reduceEqDiff, iht]
  · by_cases h15 : a.tc.toNat = 15
    · obtain ⟨p, hx⟩ := Option.isSome_iff_exists.mp (hma.2 h15)
      simp only [↓reduceIte, h15, hx, Option.map_some, Nat.reduceEqDiff, iht]
    · simp only [h14, ↓reduceIte, h15, iht]

/-- the first attribute of type `code` -/
def firstWith (code : Nat) : List RawAttr → Option RawAttr
  | [] => none
  | a :: r => if a.tc.toNat = code then some a else firstWith code r

theorem firstWith_none (code : Nat) (l : List RawAttr) (h : ∀ x ∈ l, x.tc.toNat ≠ code) :
    firstWith code l = none := by
  induction l with
  | nil => rfl
  | cons a t ih =>
    simp only [firstWith, h a (by simp), ↓reduceIte]
    exact ih (fun x hx => h x (by simp [hx]))

theorem firstWith_mem {code : Nat} {l : List RawAttr} {a : RawAttr} (h : firstWith code l = some a) : a ∈ l := by
  induction l with
  | nil => cases h
  | cons b t ih =>
    rw [firstWith] at h
    split at h
    · cases h; exact List.mem_cons_self
    · exact List.mem_cons_of_mem b (ih h)

theorem findUnchecked_enc (code : Nat) : ∀ (l : List RawAttr), (∀ a ∈ l, a.wf = true) →
    ∀ f, l.length ≤ f → findUnchecked code f (encRaws l) = .ok ((firstWith code l).map encRaw) := by
  refine encRaws_induct (fun f => by cases f <;> rfl) fun f a t ha ih => ?_
  simp only [findUnchecked, encRaws_cons, uncheckedNext_encRaw a ha (encRaws t), (epa_encRaw a ha).1, firstWith]
  split
  · rfl
  · exact ih

theorem famOf_famCode (f : Fam) : famOf (famCode f) = some f := by cases f <;> rfl

theorem famCode_small (f : Fam) : (famCode f).1 < 65536 ∧ (famCode f).2 < 256 := by cases f <;> decide

theorem afiSafi_mpReach (k : Nat × Nat) (h1 : k.1 < 65536) (h2 : k.2 < 256) (nh : Bytes) (rsv : UInt8)
    (body : Bytes) :
    afiSafi (mpReachValue k nh rsv body) = some (k, UInt8.ofNat nh.length :: (nh ++ (rsv :: body))) := by
  simp only [afiSafi, mpReachValue, rd16_be16 _ h1, rd8, UInt8.toNat_ofNat_of_lt' h2]

theorem afiSafi_mpUnreach (k : Nat × Nat) (h1 : k.1 < 65536) (h2 : k.2 < 256) (body : Bytes) :
    afiSafi (mpUnreachValue k body) = some (k, body) := by
  simp only [afiSafi, mpUnreachValue, rd16_be16 _ h1, rd8, UInt8.toNat_ofNat_of_lt' h2]

theorem afiSafi_mpReach_famCode (f : Fam) (nh : Bytes) (rsv : UInt8) (b : Bytes) :
    afiSafi (mpReachValue (famCode f) nh rsv b) = some (famCode f, UInt8.ofNat nh.length :: (nh ++ (rsv :: b))) :=
  afiSafi_mpReach (famCode f) (famCode_small f).1 (famCode_small f).2 nh rsv b

theorem afiSafi_reach (f : Fam) (nh nlri : Bytes) :
    afiSafi (reachValue f nh nlri) = some (famCode f, UInt8.ofNat nh.length :: (nh ++ (0 :: nlri))) :=
  afiSafi_mpReach_famCode f nh 0 nlri

theorem afiSafi_unreach (f : Fam) (nlri : Bytes) :
    afiSafi (unreachValue f nlri) = some (famCode f, nlri) :=
  afiSafi_mpUnreach (famCode f) (famCode_small f).1 (famCode_small f).2 nlri

/-- `NextHop::skip` + `advance(1)`: the reserved octet is passed over whatever its value -/
theorem skipNextHop_mp (nh : Bytes) (rsv : UInt8) (body : Bytes) (hn : nh.length < 256) :
    skipNextHop (UInt8.ofNat nh.length :: (nh ++ (rsv :: body))) = some body := by
  simp only [skipNextHop, UInt8.toNat_ofNat_of_lt' hn, takeN_append]

end Rc.Upd
