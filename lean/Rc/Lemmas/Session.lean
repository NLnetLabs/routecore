/-
Lemmas about the whole-session model `Rc/Model/Session.lean`: the key lemma `pump_feed`
(`pump (buf ++ c) = feed (pump buf) c`, from `Rc.Framing.parseFrame_append`), the trace of a run as a
fold of `Rc.Fsm.tickStep`, and the totality / C09-view of the concrete wire.
-/
import Rc.Model.Session
import Rc.Lemmas.Framing
import Rc.Lemmas.SessionDecode

namespace Rc.Session
open Rc Rc.Framing

variable {μ κ : Type}

theorem pump_none {w : Wire μ κ} {cfg : Fsm.Cfg} {s : Fsm.St} {k : κ} {buf : Bytes}
    (h : parseFrame (w.dec k) buf = .ok none) : pump w cfg s k buf = ⟨[], [], [], s, k, some buf⟩ := by
  rw [pump]; split <;> simp_all

theorem pump_err {w : Wire μ κ} {cfg : Fsm.Cfg} {s : Fsm.St} {k : κ} {buf : Bytes}
    (h : parseFrame (w.dec k) buf = .err) :
    pump w cfg s k buf =
      ⟨[], [.readErr], [Fsm.tickStep cfg s .readErr], after (Fsm.tickStep cfg s .readErr) s, k, none⟩ := by
  rw [pump]; split <;> simp_all

theorem pump_panic {w : Wire μ κ} {cfg : Fsm.Cfg} {s : Fsm.St} {k : κ} {buf : Bytes}
    (h : parseFrame (w.dec k) buf = .panic) : pump w cfg s k buf = ⟨[], [], [.res .panic], s, k, none⟩ := by
  rw [pump]; split <;> simp_all

theorem pump_some {w : Wire μ κ} {cfg : Fsm.Cfg} {s : Fsm.St} {k : κ} {buf : Bytes} {m : μ} {frame rest : Bytes}
    (h : parseFrame (w.dec k) buf = .ok (some ((m, frame), rest))) :
    pump w cfg s k buf =
      let t := Fsm.TickInput.frame (w.inp (m, frame))
      let r := Fsm.tickStep cfg s t
      let s' := after r s
      let k' := w.upd k s (m, frame) s'
      if goesOn r then (pump w cfg s' k' rest).pre (m, frame) t r else ⟨[(m, frame)], [t], [r], s', k', none⟩ := by
  rw [pump]; split <;> simp_all

private theorem feed_pre (w : Wire μ κ) (cfg : Fsm.Cfg) (x : Res μ κ) (c : Bytes) (f : Frame μ)
    (t : Fsm.TickInput) (r : Fsm.TickResult) :
    feed w cfg (x.pre f t r) c = (feed w cfg x c).pre f t r := by
  unfold feed
  cases hl : x.live with
  | none => simp [Res.pre, hl]
  | some b => simp [Res.pre, Res.app, hl]

theorem pump_feed (w : Wire μ κ) (cfg : Fsm.Cfg) (c : Bytes) (s : Fsm.St) (k : κ) (buf : Bytes) :
    pump w cfg s k (buf ++ c) = feed w cfg (pump w cfg s k buf) c := by
  fun_induction pump w cfg s k buf with
  | case1 s k buf h => rfl
  | case2 s k buf h => rw [pump_err (parseFrame_append_of_eq c h nofun)]; rfl
  | case3 s k buf h => rw [pump_panic (parseFrame_append_of_eq c h nofun)]; rfl
  | case4 s k buf m frame rest h _ t r s' k' hg ih =>
    rw [pump_some (parseFrame_append_of_eq c h nofun)]
    simp only [hg, if_true, ih, feed_pre, t, r, s', k']
  | case5 s k buf m frame rest h _ t r s' k' hg =>
    rw [pump_some (parseFrame_append_of_eq c h nofun)]
    simp only [hg, t, r]
    rfl

theorem pump_append (w : Wire μ κ) (cfg : Fsm.Cfg) (c : Bytes) :
    ∀ (n : Nat) (buf : Bytes) (s : Fsm.St) (k : κ), buf.length ≤ n →
      pump w cfg s k (buf ++ c) = feed w cfg (pump w cfg s k buf) c :=
  fun _ buf s k _ => pump_feed w cfg c s k buf

theorem start_eq_pump (w : Wire μ κ) (cfg : Fsm.Cfg) (s : Fsm.St) (k : κ) :
    (start s k : Res μ κ) = pump w cfg s k [] :=
  (pump_none (by rw [parseFrame_eq]; rfl)).symm

theorem foldl_feed_pump (w : Wire μ κ) (cfg : Fsm.Cfg) (s : Fsm.St) (k : κ) :
    ∀ (cs : List Bytes) (b : Bytes),
      cs.foldl (feed w cfg) (pump w cfg s k b) = pump w cfg s k (b ++ cs.flatten) := by
  intro cs
  induction cs with
  | nil => intro b; simp
  | cons c cs ih =>
    intro b
    rw [List.foldl_cons, ← pump_feed, ih, List.flatten_cons, List.append_assoc]

theorem liveTicks_singleton (cfg : Fsm.Cfg) (s : Fsm.St) (t : Fsm.TickInput) :
    liveTicks cfg s [t] = [Fsm.tickStep cfg s t] := by
  simp [liveTicks]

theorem liveFinal_singleton (cfg : Fsm.Cfg) (s : Fsm.St) (t : Fsm.TickInput) :
    liveFinal cfg s [t] = after (Fsm.tickStep cfg s t) s := by
  simp [liveFinal]

theorem pump_live (w : Wire μ κ) (cfg : Fsm.Cfg) (hdec : ∀ k b, w.dec k b ≠ .panic) (s : Fsm.St) (k : κ) (buf : Bytes) :
    (pump w cfg s k buf).trace = liveTicks cfg s (pump w cfg s k buf).inputs ∧
    (pump w cfg s k buf).s = liveFinal cfg s (pump w cfg s k buf).inputs ∧
    (∀ t ∈ (pump w cfg s k buf).inputs, isWireInput t = true) := by
  fun_induction pump w cfg s k buf with
  | case1 s k buf h => exact ⟨rfl, rfl, by simp⟩
  | case2 s k buf h =>
    exact ⟨(liveTicks_singleton ..).symm, (liveFinal_singleton ..).symm, by simp [isWireInput]⟩
  | case3 s k buf h => exact absurd h (parseFrame_ne_panic' (w.dec k) (hdec k) buf)
  | case4 s k buf m frame rest h _ t r s' k' hg ih =>
    simp only [hg, if_true, Res.pre, liveTicks, liveFinal, List.mem_cons, forall_eq_or_imp, t, r]
    exact ⟨by rw [ih.1], ih.2.1, rfl, ih.2.2⟩
  | case5 s k buf m frame rest h _ t r s' k' hg =>
    exact ⟨(liveTicks_singleton ..).symm, (liveFinal_singleton ..).symm, by simp [isWireInput, t]⟩

/-- the trace of a run is `tickStep` folded over what `tick` processed (frames, possibly a failed read at
the end), until the first tick that returns `Err` / loses the connection; the session it leaves is the
one that fold leaves -/
theorem pump_spec (w : Wire μ κ) (cfg : Fsm.Cfg) (hdec : ∀ k b, w.dec k b ≠ .panic) :
    ∀ (n : Nat) (buf : Bytes) (s : Fsm.St) (k : κ), buf.length ≤ n →
      (pump w cfg s k buf).trace = liveTicks cfg s (pump w cfg s k buf).inputs ∧
      (pump w cfg s k buf).s = liveFinal cfg s (pump w cfg s k buf).inputs ∧
      (∀ t ∈ (pump w cfg s k buf).inputs, isWireInput t = true) :=
  fun _ buf s k _ => pump_live w cfg hdec s k buf

theorem pump_trace (w : Wire μ κ) (cfg : Fsm.Cfg) (hdec : ∀ k b, w.dec k b ≠ .panic)
    (n : Nat) (buf : Bytes) (s : Fsm.St) (k : κ) (h : buf.length ≤ n) :
    (pump w cfg s k buf).trace = liveTicks cfg s (pump w cfg s k buf).inputs :=
  (pump_spec w cfg hdec n buf s k h).1

theorem tickInputs_cons (inp : Frame μ → Fsm.Input) (f : Frame μ) (r : Run μ) :
    tickInputs inp (f :: r.1, r.2) = .frame (inp f) :: tickInputs inp r := rfl

theorem pump_drain (w : Wire μ κ) (cfg : Fsm.Cfg) (dec : Bytes → Outcome μ) (hc : ∀ k, w.dec k = dec)
    (hdec : ∀ b, dec b ≠ .panic) (s : Fsm.St) (k : κ) (buf : Bytes) :
    (pump w cfg s k buf).trace = liveTicks cfg s (tickInputs w.inp (drain dec buf)) := by
  fun_induction pump w cfg s k buf with
  | case1 s k buf h => rw [drain_none (hc k ▸ h)]; rfl
  | case2 s k buf h =>
    rw [drain_err (hc k ▸ h)]
    exact (liveTicks_singleton ..).symm
  | case3 s k buf h => exact absurd h (parseFrame_ne_panic' (w.dec k) (hc k ▸ hdec) buf)
  | case4 s k buf m frame rest h _ t r s' k' hg ih =>
    rw [drain_some (hc k ▸ h), tickInputs_cons]
    simp only [hg, if_true, Res.pre, liveTicks, ih, t, r, s', k']
  | case5 s k buf m frame rest h _ t r s' k' hg =>
    rw [drain_some (hc k ▸ h), tickInputs_cons]
    simp only [hg, liveTicks, t, r]
    rfl

/-- with a decoder that does not change during the run: the trace is `tickStep` folded over the events of
the frames `drain` cuts from the buffer (a frame each, then the failed read if the stream ends in an
error), until the first tick that returns `Err` / loses the connection -/
theorem pump_trace_const (w : Wire μ κ) (cfg : Fsm.Cfg) (dec : Bytes → Outcome μ) (hc : ∀ k, w.dec k = dec)
    (hdec : ∀ b, dec b ≠ .panic) :
    ∀ (n : Nat) (buf : Bytes) (s : Fsm.St) (k : κ), buf.length ≤ n →
      (pump w cfg s k buf).trace = liveTicks cfg s (tickInputs w.inp (drain dec buf)) :=
  fun _ buf s k _ => pump_drain w cfg dec hc hdec s k buf

/-- `liveTicks` is an initial piece of C08's `runTick` -/
theorem liveTicks_prefix_runTick (cfg : Fsm.Cfg) :
    ∀ (tis : List Fsm.TickInput) (s : Fsm.St), liveTicks cfg s tis <+: Fsm.runTick cfg s tis := by
  intro tis
  induction tis with
  | nil => intro s; simp [liveTicks, Fsm.runTick]
  | cons t rest ih =>
    intro s
    simp only [liveTicks, Fsm.runTick]
    cases hr : Fsm.tickStep cfg s t with
    | noConn => simp [goesOn]
    | res r =>
      cases r with
      | todo | panic => simp [goesOn]
      | next s' ok outs =>
        simp only [after]
        split
        · exact List.prefix_cons_inj _ |>.mpr (ih s')
        · simp

theorem okSteps_cons_ok {cfg : Fsm.Cfg} {s s' : Fsm.St} {i : Fsm.Input} {outs : List Fsm.Out}
    (h : Fsm.tickStep cfg s (.frame i) = .res (.next s' true outs)) (rest : List Fsm.TickInput) :
    okSteps cfg s (.frame i :: rest) = (s, i, s', outs) :: (if s'.conn then okSteps cfg s' rest else []) := by
  simp only [okSteps, h]

theorem liveFinal_cons_ok {cfg : Fsm.Cfg} {s s' : Fsm.St} {t : Fsm.TickInput} {outs : List Fsm.Out}
    (h : Fsm.tickStep cfg s t = .res (.next s' true outs)) (rest : List Fsm.TickInput) :
    liveFinal cfg s (t :: rest) = if s'.conn then liveFinal cfg s' rest else s' := by
  simp only [liveFinal, h, goesOn, after]

theorem okSteps_cons_stop {cfg : Fsm.Cfg} {s : Fsm.St} {t : Fsm.TickInput}
    (h : ∀ i s' outs, t = .frame i → Fsm.tickStep cfg s t = .res (.next s' true outs) → False)
    (rest : List Fsm.TickInput) : okSteps cfg s (t :: rest) = [] := by
  unfold okSteps
  split
  · exact absurd ‹_› (h _ _ _ rfl)
  · rfl

/-- the transitions READ OFF a recorded run - inputs and tick results side by side, the state before each
step taken from the trace itself (the state the previous `tick` left); stops at the first entry that is
not a frame answered `Ok`.  Nothing is recomputed: no `tickStep`, no `handleInput`. -/
def traceSteps : Fsm.St → List Fsm.TickInput → List Fsm.TickResult →
    List (Fsm.St × Fsm.Input × Fsm.St × List Fsm.Out)
  | s, t :: ts, r :: rs =>
    match t, r with
    | .frame i, .res (.next s' true outs) => (s, i, s', outs) :: traceSteps s' ts rs
    | _, _ => []
  | _, _, _ => []

theorem traceSteps_nil_right (s : Fsm.St) (tis : List Fsm.TickInput) : traceSteps s tis [] = [] := by
  cases tis <;> simp [traceSteps]

/-- LINK LEMMA: on a trace that is `liveTicks` of its inputs, the transitions read off the trace are
`okSteps` (the re-computation) -/
theorem traceSteps_liveTicks (cfg : Fsm.Cfg) :
    ∀ (tis : List Fsm.TickInput) (s : Fsm.St), traceSteps s tis (liveTicks cfg s tis) = okSteps cfg s tis := by
  intro tis s
  induction s, tis using okSteps.induct cfg with
  | case1 s => rfl
  | case2 s rest i s' outs h ih =>
    rw [okSteps_cons_ok h, liveTicks, h, traceSteps]
    cases hc : s'.conn with
    | true => simp only [goesOn, after, hc, if_true, ih]
    | false => simp only [goesOn, hc, Bool.false_eq_true, if_false, traceSteps_nil_right]
  | case3 s t rest h =>
    rw [okSteps_cons_stop h, liveTicks]
    unfold traceSteps
    split
    · exact absurd ‹_› (h _ _ _ rfl)
    · rfl

/-- every frame of a recorded run stands on the wire as a complete, well-delimited message that the decoder
IN FORCE WHEN IT WAS READ accepted: the connection's configuration is threaded through `w.upd`, with the
session states taken from the trace (`k`, `s` = configuration / state before the first frame) -/
def FramesDecoded (w : Wire μ κ) : κ → Fsm.St → List (Frame μ) → List Fsm.TickResult → Prop
  | _, _, [], _ => True
  | _, _, _ :: _, [] => False
  | k, s, f :: fs, r :: rs =>
    (19 ≤ f.2.length ∧ lenField f.2 = f.2.length ∧ w.dec k f.2 = .ok f.1) ∧
    FramesDecoded w (w.upd k s f (after r s)) (after r s) fs rs

/-- the connection's configuration after the frames of a recorded run -/
def kAlong (w : Wire μ κ) : κ → Fsm.St → List (Frame μ) → List Fsm.TickResult → κ
  | k, _, [], _ => k
  | k, _, _ :: _, [] => k
  | k, s, f :: fs, r :: rs => kAlong w (w.upd k s f (after r s)) (after r s) fs rs

/-- how a run ends, `rest` = the octets after the last frame handed to `handle_msg`: (1) `read_frame` waits
for more (`rest` is buffered and is no complete frame under the configuration now in force), (2) `rest`
is refused (bad length / marker / decoder error: one more tick, the failed read), (3) the session stopped
on its last frame (`Err`, or the connection was released): `rest` is never looked at.  In every case the
inputs `tick` processed are `w.inp` of the frames, in order. -/
def WireEnd (w : Wire μ κ) (r : Res μ κ) (rest : Bytes) : Prop :=
  (r.live = some rest ∧ parseFrame (w.dec r.k) rest = .ok none ∧
    r.inputs = r.frames.map (fun f => Fsm.TickInput.frame (w.inp f))) ∨
  (r.live = none ∧ parseFrame (w.dec r.k) rest = .err ∧
    r.inputs = r.frames.map (fun f => Fsm.TickInput.frame (w.inp f)) ++ [.readErr]) ∨
  (r.live = none ∧ r.frames ≠ [] ∧ r.inputs = r.frames.map (fun f => Fsm.TickInput.frame (w.inp f)))

theorem WireEnd.pre {w : Wire μ κ} {x : Res μ κ} {rest : Bytes} (h : WireEnd w x rest) (f : Frame μ)
    (r : Fsm.TickResult) : WireEnd w (x.pre f (.frame (w.inp f)) r) rest := by
  rcases h with ⟨a, b, c⟩ | ⟨a, b, c⟩ | ⟨a, b, c⟩
  · exact Or.inl ⟨a, b, by simp [Res.pre, c]⟩
  · exact Or.inr (Or.inl ⟨a, b, by simp [Res.pre, c]⟩)
  · exact Or.inr (Or.inr ⟨a, by simp [Res.pre], by simp [Res.pre, c]⟩)

/-- `pump` hands over exactly the frames that stand on the wire, each once, in order, each decoded under
the configuration in force when it is read -/
theorem pump_wire (w : Wire μ κ) (cfg : Fsm.Cfg) (hdec : ∀ k b, w.dec k b ≠ .panic) :
    ∀ (n : Nat) (buf : Bytes) (s : Fsm.St) (k : κ), buf.length ≤ n →
      FramesDecoded w k s (pump w cfg s k buf).frames (pump w cfg s k buf).trace ∧
      (pump w cfg s k buf).k = kAlong w k s (pump w cfg s k buf).frames (pump w cfg s k buf).trace ∧
      ∃ rest, buf = ((pump w cfg s k buf).frames.map (·.2)).flatten ++ rest ∧
        WireEnd w (pump w cfg s k buf) rest := by
  intro _ buf s k hn
  clear hn
  -- a frame `parse_frame` cut is a complete message the decoder in force accepted, and stands at the head of `buf`
  have cut : ∀ {k buf m frame rest}, parseFrame (w.dec k) buf = .ok (some ((m, frame), rest)) →
      (19 ≤ frame.length ∧ lenField frame = frame.length ∧ w.dec k frame = .ok m) ∧ buf = frame ++ rest := by
    intro k buf m frame rest h
    obtain ⟨h19, hbuf, hlen, hd⟩ := parseFrame_some h
    exact ⟨⟨h19, by rw [← hlen, hbuf, lenField_append frame rest (by omega)], hd⟩, hbuf⟩
  fun_induction pump w cfg s k buf with
  | case1 s k buf h => exact ⟨trivial, rfl, buf, rfl, Or.inl ⟨rfl, h, rfl⟩⟩
  | case2 s k buf h => exact ⟨trivial, rfl, buf, rfl, Or.inr (Or.inl ⟨rfl, h, rfl⟩)⟩
  | case3 s k buf h => exact absurd h (parseFrame_ne_panic' (w.dec k) (hdec k) buf)
  | case4 s k buf m frame rest h _ t r s' k' hg ih =>
    obtain ⟨hF, hK, rest', hb, hE⟩ := ih
    refine ⟨⟨(cut h).1, hF⟩, hK, rest', ?_, hE.pre (m, frame) _⟩
    simp only [Res.pre, List.map_cons, List.flatten_cons, List.append_assoc]
    rw [← hb]; exact (cut h).2
  | case5 s k buf m frame rest h _ t r s' k' hg =>
    exact ⟨⟨(cut h).1, trivial⟩, rfl, rest, by simpa using (cut h).2, Or.inr (Or.inr ⟨rfl, nofun, rfl⟩)⟩

/-- forgetting which configuration was in force: every frame of a recorded run is a complete message that
some configuration met along the run decoded to the value handed over -/
theorem FramesDecoded_mem (w : Wire μ κ) :
    ∀ (fs : List (Frame μ)) (rs : List Fsm.TickResult) (k : κ) (s : Fsm.St), FramesDecoded w k s fs rs →
      ∀ f ∈ fs, ∃ k', 19 ≤ f.2.length ∧ lenField f.2 = f.2.length ∧ w.dec k' f.2 = .ok f.1 := by
  intro fs rs k s
  fun_induction FramesDecoded w k s fs rs with
  | case1 => intro _ f hf; cases hf
  | case2 => exact False.elim
  | case3 k s g fs r rs ih =>
    intro h f hf
    rcases List.mem_cons.mp hf with rfl | hf
    · exact ⟨k, h.1⟩
    · exact ih h.2 f hf

open Rc.SessionDecode

theorem sessionWire_dec_ok {k : Upd.Cfg} {f : Bytes} {i : Fsm.Input} (h : sessionWire.dec k f = .ok i) :
    ∃ m, msgFromOctets k f = .ok m ∧ toInput f m = .ok i := by
  simp only [sessionWire] at h
  cases hm : msgFromOctets k f with
  | ok m => rw [hm] at h; exact ⟨m, rfl, h⟩
  | err | panic => rw [hm] at h; cases h

theorem toInput_ne_panic {k : Upd.Cfg} {f : Bytes} {m : BgpMsg} (h : msgFromOctets k f = .ok m) :
    toInput f m ≠ .panic := by
  have hd := (msgFromOctets_ok h).2.2
  cases m with
  | update _ | keepalive _ | routeRefresh _ => nofun
  | «open» o =>
    obtain ⟨ha, hh, hap, -, -⟩ := open_accessors_ne_panic hd
    rw [toInput]
    refine okOrErr ha (fun _ => ?_) nofun
    refine okOrErr hh (fun _ => ?_) nofun
    exact okOrErr hap (fun _ => nofun) nofun
  | notification n =>
    rw [toInput]
    exact okOrErr ((Rc.Thm.C03.notif_total f).2 n hd).2.1 (fun _ => nofun) nofun

/-- the concrete decoder never panics (C02 `parse_total`, C03 `open_decode_total` /
`open_accessors_total` / `notif_total` / `keepalive_total` / `rr_total`) -/
theorem sessionWire_ne_panic (k : Upd.Cfg) (f : Bytes) : sessionWire.dec k f ≠ .panic := by
  simp only [sessionWire]
  cases h : msgFromOctets k f with
  | panic => exact absurd h (msgFromOctets_ne_panic k f)
  | err => nofun
  | ok m => exact toInput_ne_panic h

/-- the BGP message type (RFC 4271 4.1) an FSM input stands for; 0 for the inputs that are no frame -/
def typeOfInput : Fsm.Input → Nat
  | .msgOpen _ => 1 | .msgUpdate _ => 2 | .msgNotification _ _ => 3 | .msgKeepalive => 4
  | .msgRouteRefresh => 5 | _ => 0

theorem toInput_ok (f : Bytes) (m : BgpMsg) :
    ∀ i, toInput f m = .ok i → typeOfInput i = typeOfMsg m ∧ ∀ n, i = .msgUpdate n → n = pduId f := by
  cases m with
  | update u => rintro i ⟨⟩; exact ⟨rfl, fun n hn => by cases hn; rfl⟩
  | keepalive _ | routeRefresh _ => rintro i ⟨⟩; exact ⟨rfl, nofun⟩
  | «open» o =>
    rw [toInput]
    cases Open.myAsn o with
    | ok asn =>
      cases Open.holdtime o with
      | ok hold =>
        cases Open.addpathFamiliesVec o with
        | panic => rintro _ ⟨⟩
        | _ => rintro i ⟨⟩; exact ⟨rfl, nofun⟩
      | _ => rintro _ ⟨⟩
    | _ => rintro _ ⟨⟩
  | notification x =>
    rw [toInput]
    cases Notif.detailsRaw x with
    | ok p => rintro i ⟨⟩; exact ⟨rfl, nofun⟩
    | _ => rintro _ ⟨⟩

/-- a well-formed ROUTE-REFRESH (RFC 2918: 23 octets, any AFI / subtype / SAFI) is `.msgRouteRefresh` for the
concrete wire, under every configuration -/
theorem sessionWire_dec_rr (k : Upd.Cfg) (x : Notif.RouteRefresh) (ha : x.afi < 65536) (hs : x.safi < 256)
    (ht : x.subtype < 256) : sessionWire.dec k (Notif.rrEncode x) = .ok .msgRouteRefresh := by
  simp only [sessionWire, msgFromOctets_rrEncode k x ha hs ht, toInput]

end Rc.Session
