/-
Lemmas about the UPDATE model (Rc/Model/Update.lean):
bounded collection of iterators, the NLRI iterators over the 26 parsers (whose
totality and progress are in Rc/Lemmas/Nlri.lean), the `UncheckedPathAttributes`
walk, what the accessors of the MP attributes answer, the attribute iterator,
community iterators.
-/
import Rc.Model.Update
import Rc.Lemmas.Nlri
import Rc.Lemmas.Attr

namespace Rc.Upd
open Rc Rc.Nlri Rc.Attr Rc.Pfx

/-! ### `collect` -/

section collect
variable {σ ι : Type} (next : σ → Option (ι × σ)) (μ : σ → Nat)

theorem collect_of_none {s : σ} (h : next s = none) (fuel : Nat) : collect next fuel s = ([], true) := by
  cases fuel <;> simp [collect, h]

theorem collect_bounded (hμ : ∀ s i s', next s = some (i, s') → μ s' < μ s) :
    ∀ (fuel : Nat) (s : σ), (collect next fuel s).1.length ≤ μ s ∧ (μ s ≤ fuel → (collect next fuel s).2 = true) := by
  intro fuel s
  cases hn : next s with
  | none => simp [collect_of_none next hn]
  | some p =>
    have := hμ s p.1 p.2 hn
    match fuel with
    | 0 => simp only [collect, hn]; exact ⟨Nat.zero_le _, fun h => by omega⟩
    | f + 1 =>
      obtain ⟨h1, h2⟩ := collect_bounded hμ f p.2
      simp only [collect, hn, List.length_cons]
      exact ⟨by omega, fun h => h2 (by omega)⟩

theorem collect_ended (hμ : ∀ s i s', next s = some (i, s') → μ s' < μ s) :
    ∀ (fuel : Nat) (s : σ), μ s ≤ fuel → (collect next fuel s).2 = true :=
  fun fuel s => (collect_bounded next μ hμ fuel s).2

theorem collect_fuel_enough (hμ : ∀ s i s', next s = some (i, s') → μ s' < μ s) :
    ∀ (f f' : Nat) (s : σ), μ s ≤ f → μ s ≤ f' → collect next f s = collect next f' s := by
  intro f f' s h h'
  cases hn : next s with
  | none => rw [collect_of_none next hn, collect_of_none next hn]
  | some p =>
    have hlt := hμ s p.1 p.2 hn
    match f, f', h, h' with
    | 0, _, h, _ => omega
    | _, 0, _, h' => omega
    | f + 1, g + 1, h, h' =>
      simp only [collect, hn]
      rw [collect_fuel_enough hμ f g p.2 (by omega) (by omega)]

theorem collect_forall {I : σ → Prop} {P : ι → Prop}
    (step : ∀ s i s', I s → next s = some (i, s') → P i ∧ I s') :
    ∀ (fuel : Nat) (s : σ), I s → ∀ x ∈ (collect next fuel s).1, P x := by
  intro fuel s
  fun_induction collect next fuel s with
  | case1 s => intro _ x hx; cases hx
  | case2 f s hn => intro _ x hx; cases hx
  | case3 f s i s' hn ih =>
    intro hs x hx
    obtain ⟨hp, hi⟩ := step s i s' hs hn
    rcases List.mem_cons.mp hx with rfl | hx
    · exact hp
    · exact ih hi x hx

end collect

/-! ### the NLRI parsers make progress and never panic -/

def Progress {α : Type} (c : Codec α) : Prop :=
  ∀ bs n r, c.dec bs = .ok (n, r) → r.length < bs.length

def NoPanic {α : Type} (c : Codec α) : Prop := ∀ bs, c.dec bs ≠ .panic

theorem progress_of_sound {α : Type} {c : Codec α} (h : c.Sound) : Progress c :=
  fun bs _ _ hd => ((h bs).of_ok hd).2

theorem noPanic_of_sound {α : Type} {c : Codec α} (h : c.Sound) : NoPanic c :=
  fun bs => (h bs).ne_panic

theorem codec_progress (f : Fam) : Progress (codec f) := progress_of_sound (codec_sound f)
theorem codec_noPanic (f : Fam) : NoPanic (codec f) := noPanic_of_sound (codec_sound f)
theorem codecAp_progress (f : Fam) : Progress (codecAp f) := progress_of_sound (codec_sound f).addpath
theorem codecAp_noPanic (f : Fam) : NoPanic (codecAp f) := noPanic_of_sound (codec_sound f).addpath

/-! ### `NlriIter` -/

theorem nlriNext_some {α : Type} {c : Codec α} {bs s' : Bytes} {i : Outcome α} (h : nlriNext c bs = some (i, s')) :
    bs ≠ [] ∧ ((∃ n, c.dec bs = .ok (n, s') ∧ i = .ok n) ∨
      s' = [] ∧ (c.dec bs = .err ∧ i = .err ∨ c.dec bs = .panic ∧ i = .panic)) := by
  unfold nlriNext at h
  split at h
  · cases h
  · refine ⟨List.cons_ne_nil _ _, ?_⟩
    split at h
    all_goals cases h
    · exact .inl ⟨_, ‹_›, rfl⟩
    · exact .inr ⟨rfl, .inl ⟨‹_›, rfl⟩⟩
    · exact .inr ⟨rfl, .inr ⟨‹_›, rfl⟩⟩

theorem nlriNext_measure {α : Type} {c : Codec α} (hp : Progress c) :
    ∀ (s : Bytes) (i : Outcome α) (s' : Bytes), nlriNext c s = some (i, s') → s'.length < s.length := by
  intro s i s' h
  obtain ⟨hne, ⟨n, hd, _⟩ | ⟨rfl, _⟩⟩ := nlriNext_some h
  · exact hp _ _ _ hd
  · exact List.length_pos_iff.mpr hne

def isOkItem {α : Type} : Outcome α → Bool
  | .ok _ => true
  | _ => false

/-- an item that is not `Ok` is the last one -/
def ErrLast {α : Type} : List (Outcome α) → Prop
  | [] => True
  | [_] => True
  | x :: y :: r => isOkItem x = true ∧ ErrLast (y :: r)

theorem errLast_cons_ok {α : Type} (a : α) (l : List (Outcome α)) (h : ErrLast l) : ErrLast (.ok a :: l) := by
  cases l with
  | nil => trivial
  | cons y r => exact ⟨rfl, h⟩

theorem errLast_tail {α : Type} {a : Outcome α} {l : List (Outcome α)} (h : ErrLast (a :: l)) : ErrLast l := by
  cases l with
  | nil => trivial
  | cons _ _ => exact h.2

theorem nlriNext_nil {α : Type} (c : Codec α) : nlriNext c [] = none := rfl

theorem nlri_collect_errLast {α : Type} (c : Codec α) :
    ∀ (f : Nat) (bs : Bytes), ErrLast (collect (nlriNext c) f bs).1 := by
  intro f bs
  fun_induction collect (nlriNext c) f bs with
  | case1 s => trivial
  | case2 f s hn => trivial
  | case3 f s i s' hn ih =>
    obtain ⟨_, ⟨n, _, rfl⟩ | ⟨rfl, _⟩⟩ := nlriNext_some hn
    · exact errLast_cons_ok _ _ ih
    · -- an item that is not `Ok` leaves the empty state, from which nothing more is yielded
      simp only [collect_of_none (nlriNext c) (nlriNext_nil c)]
      trivial

theorem nlriItems_ended {α : Type} {c : Codec α} (hp : Progress c) (bs : Bytes) : (nlriItems c bs).2 = true :=
  collect_ended (nlriNext c) List.length (nlriNext_measure hp) _ bs (by omega)

theorem nlriItems_length {α : Type} {c : Codec α} (hp : Progress c) (bs : Bytes) :
    (nlriItems c bs).1.length ≤ bs.length :=
  (collect_bounded (nlriNext c) List.length (nlriNext_measure hp) _ bs).1

theorem errLast_map {α β : Type} (g : α → β) : ∀ (l : List (Outcome α)), ErrLast l → ErrLast (l.map (mapO g))
  | [], _ => trivial
  | [_], _ => trivial
  | x :: y :: r, h => by
    refine ⟨?_, errLast_map g (y :: r) h.2⟩
    match x, h.1 with
    | .ok _, _ => rfl

theorem mapO_ne_panic {α β : Type} {g : α → β} {x : Outcome α} (h : x ≠ .panic) : mapO g x ≠ .panic := by
  cases x <;> simp_all [mapO]

theorem nlriNext_ne_panic {α : Type} {c : Codec α} (h : c.Sound) {s s' : Bytes} {i : Outcome α}
    (hs : nlriNext c s = some (i, s')) : i ≠ .panic := by
  obtain ⟨_, ⟨n, _, rfl⟩ | ⟨_, ⟨_, rfl⟩ | ⟨hp, _⟩⟩⟩ := nlriNext_some hs
  · simp
  · simp
  · exact absurd hp (h s).ne_panic

theorem nlriItems_spec {α β : Type} {c : Codec α} (h : c.Sound) (g : α → β) (bs : Bytes) :
    (nlriItems c bs).2 = true ∧ ((nlriItems c bs).1.map (mapO g)).length ≤ bs.length ∧
      ErrLast ((nlriItems c bs).1.map (mapO g)) ∧ ∀ x ∈ (nlriItems c bs).1.map (mapO g), x ≠ .panic := by
  refine ⟨nlriItems_ended (progress_of_sound h) bs, by simpa using nlriItems_length (progress_of_sound h) bs,
    errLast_map _ _ (nlri_collect_errLast _ _ _), fun x hx => ?_⟩
  obtain ⟨y, hy, rfl⟩ := List.mem_map.mp hx
  exact mapO_ne_panic (collect_forall (nlriNext c) (I := fun _ => True)
    (fun _ _ _ _ hs => ⟨nlriNext_ne_panic h hs, trivial⟩) _ bs trivial y hy)

theorem famItems_spec (f : Fam) (ap : Bool) (bs : Bytes) :
    (famItems f ap bs).2 = true ∧ (famItems f ap bs).1.length ≤ bs.length ∧
      ErrLast (famItems f ap bs).1 ∧ ∀ x ∈ (famItems f ap bs).1, x ≠ .panic := by
  cases ap
  · exact nlriItems_spec (codec_sound f) _ bs
  · exact nlriItems_spec (codec_sound f).addpath _ bs

theorem enumItems_spec (ty : NlriTy) (bs : Bytes) :
    (enumItems ty bs).2 = true ∧ (enumItems ty bs).1.length ≤ bs.length ∧
      ErrLast (enumItems ty bs).1 ∧ ∀ x ∈ (enumItems ty bs).1, x ≠ .panic := by
  cases ty with
  | known f ap => exact famItems_spec f ap bs
  | unsupported a s => simp [enumItems, ErrLast]

theorem nlriItems_nil_iff {α : Type} (c : Codec α) (bs : Bytes) : (nlriItems c bs).1 = [] ↔ bs = [] := by
  cases bs with
  | nil => simp [nlriItems, collect, nlriNext]
  | cons x r =>
    simp only [nlriItems, List.length_cons, collect, nlriNext]
    cases c.dec (x :: r) <;> simp

theorem famItems_nil_iff (f : Fam) (ap : Bool) (bs : Bytes) : (famItems f ap bs).1 = [] ↔ bs = [] := by
  unfold famItems
  cases ap
  · simpa using nlriItems_nil_iff (codec f) bs
  · simpa using nlriItems_nil_iff (codecAp f) bs

/-- for a supported family "the MP_UNREACH_NLRI iterator yields nothing" and
"no octets follow AFI/SAFI" are the same thing (for an unsupported one the
iterator yields nothing whatever follows) -/
theorem enumItems_known_nil_iff (f : Fam) (ap : Bool) (bs : Bytes) :
    (enumItems (.known f ap) bs).1 = [] ↔ bs = [] := famItems_nil_iff f ap bs

/-! ### validation never panics -/

theorem decAllFuel_noPanic {α : Type} {c : Codec α} (hn : NoPanic c) :
    ∀ (f : Nat) (bs : Bytes), decAllFuel c f bs ≠ .panic := by
  intro f bs
  fun_induction decAllFuel c f bs
  case case5 hp ih => exact absurd hp ih
  case case7 hp => exact absurd hp (hn _)
  all_goals simp

theorem nlriValidate_noPanic {α : Type} {c : Codec α} (hn : NoPanic c) (bs : Bytes) : nlriValidate c bs ≠ .panic := by
  have := decAllFuel_noPanic hn bs.length bs
  unfold nlriValidate Nlri.decAll
  split <;> simp_all

theorem convValidate_noPanic (ap : Bool) (bs : Bytes) : convValidate ap bs ≠ .panic := by
  unfold convValidate
  split
  · exact nlriValidate_noPanic (codecAp_noPanic _) bs
  · exact nlriValidate_noPanic (codec_noPanic _) bs

/-! ### `UncheckedPathAttributes` -/

/-- what `UncheckedPathAttributes::next` hands out is a complete attribute: its
accessors do not panic and agree with the header walk `splitAttr` -/
theorem uncheckedNext_spec {bs e r : Bytes} (h : uncheckedNext bs = some (e, r)) :
    ∃ fl tc v, splitAttr bs = some (fl, tc, v, r) ∧ bs = e ++ r ∧ epaFlags e = .ok fl ∧
      epaCode e = .ok tc ∧ epaLength e = .ok v.length ∧ epaValue e = .ok v := by
  revert h
  fun_cases uncheckedNext bs
  all_goals intro h; cases h
  case case1 fl tc hext _ _ _ v ht =>
    obtain ⟨hl, hs⟩ := takeN_length ht
    refine ⟨fl, tc, v, ?_, by simp [hs], rfl, rfl, ?_, ?_⟩
    · simp only [splitAttr, hext, ↓reduceIte, rd16, ht]
    · simp only [epaLength, epaFlags, hext, ↓reduceIte, hl]
    · simp [epaValue, epaFlags, hext]
  case case4 fl tc hext _ _ v ht =>
    obtain ⟨hl, hs⟩ := takeN_length ht
    refine ⟨fl, tc, v, ?_, by simp [hs], rfl, rfl, ?_, ?_⟩
    · simp only [splitAttr, hext, Bool.false_eq_true, ↓reduceIte, rd8, ht]
    · simp only [epaLength, epaFlags, hext, Bool.false_eq_true, ↓reduceIte, hl]
    · simp [epaValue, epaFlags, hext]

theorem epaValue_length {e v : Bytes} (h : epaValue e = .ok v) : v.length ≤ e.length := by
  revert h
  fun_cases epaValue e
  all_goals intro h; cases h
  all_goals simp

theorem findUnchecked_spec (code : Nat) : ∀ (f : Nat) (bs : Bytes),
    findUnchecked code f bs ≠ .panic ∧ findUnchecked code f bs ≠ .err ∧
      ∀ e, findUnchecked code f bs = .ok (some e) →
        e.length ≤ bs.length ∧ ∃ v, epaValue e = .ok v ∧ v.length ≤ e.length := by
  intro f
  induction f with
  | zero => intro bs; simp [findUnchecked]
  | succ f ih =>
    intro bs
    simp only [findUnchecked]
    cases hn : uncheckedNext bs with
    | none => simp
    | some p =>
      obtain ⟨e, r⟩ := p
      obtain ⟨fl, tc, v, _, hbs, _, hc, hlen, hv⟩ := uncheckedNext_spec hn
      simp only [hc]
      have hr : r.length ≤ bs.length := by rw [hbs]; simp
      split
      · refine ⟨by simp, by simp, fun e' he' => ?_⟩
        cases he'
        exact ⟨by rw [hbs]; simp, v, hv, epaValue_length hv⟩
      · obtain ⟨h1, h2, h3⟩ := ih r
        exact ⟨h1, h2, fun e' he' => ⟨Nat.le_trans (h3 e' he').1 hr, (h3 e' he').2⟩⟩

theorem mpScan_noPanic : ∀ (f : Nat) (bs : Bytes) (r u : Option (Nat × Nat)), mpScan f bs r u ≠ .panic := by
  intro f
  induction f with
  | zero => intro bs r u; simp [mpScan]
  | succ f ih =>
    intro bs r u
    simp only [mpScan]
    cases hn : uncheckedNext bs with
    | none => simp
    | some p =>
      obtain ⟨e, rest⟩ := p
      obtain ⟨fl, tc, v, _, _, _, hc, hlen, hv⟩ := uncheckedNext_spec hn
      simp only [hc, hlen, hv]
      split
      · split
        · simp
        · split
          · exact ih _ _ _
          · simp
      · split
        · split
          · exact ih _ _ _
          · simp
        · exact ih _ _ _

/-! ### the MP attributes and the accessors that read them -/

theorem afiSafi_length {v r : Bytes} {k : Nat × Nat} (h : afiSafi v = some (k, r)) : v.length = r.length + 3 := by
  match v, h with
  | a :: b :: c :: t, h =>
    cases h; rfl

theorem skipNextHop_length {r r' : Bytes} (h : skipNextHop r = some r') : r'.length ≤ r.length := by
  unfold skipNextHop at h
  split at h
  · cases h
  · split at h
    · cases h
    · rename_i ht
      have := takeN_some_length ht
      split at h
      · cases h
      · cases h; simp at *; omega

/-- the three answers of `mpAttr`; every accessor of MP_REACH_NLRI / MP_UNREACH_NLRI is a case split on them -/
theorem mpAttr_cases (m : Msg) (code : Nat) :
    m.mpAttr code = .err ∨ m.mpAttr code = .ok none ∨
      ∃ k r, m.mpAttr code = .ok (some (k, r)) ∧ r.length ≤ m.attrs.length := by
  obtain ⟨h1, h2, h3⟩ := findUnchecked_spec code m.attrs.length m.attrs
  unfold Msg.mpAttr
  cases hf : findUnchecked code m.attrs.length m.attrs with
  | panic => exact absurd hf h1
  | err => exact absurd hf h2
  | ok o =>
    cases o with
    | none => exact .inr (.inl rfl)
    | some e =>
      obtain ⟨hle, v, hv, hvl⟩ := h3 e hf
      simp only [hv]
      cases ha : afiSafi v with
      | none => exact .inl rfl
      | some x =>
        have := afiSafi_length ha
        exact .inr (.inr ⟨x.1, x.2, rfl, by omega⟩)

theorem mpWd_spec (m : Msg) :
    m.mpWd ≠ .panic ∧ ∀ ty bs, m.mpWd = .ok (some (ty, bs)) → bs.length ≤ m.attrs.length := by
  unfold Msg.mpWd
  rcases mpAttr_cases m 15 with h | h | ⟨k, r, h, hr⟩
  · simp [h]
  · simp [h]
  · rw [h]
    exact ⟨by simp, fun ty bs hb => by cases hb; exact hr⟩

theorem mpAnn_spec (m : Msg) :
    m.mpAnn ≠ .panic ∧ ∀ ty bs, m.mpAnn = .ok (some (ty, bs)) → bs.length ≤ m.attrs.length := by
  unfold Msg.mpAnn
  rcases mpAttr_cases m 14 with h | h | ⟨k, r, h, hr⟩
  · simp [h]
  · simp [h]
  · cases hs : skipNextHop r with
    | none => simp [h, hs]
    | some r' =>
      have := skipNextHop_length hs
      rw [h]
      simp only [hs]
      exact ⟨by simp, fun ty bs hb => by cases hb; omega⟩

theorem typedWd_spec (m : Msg) (f : Fam) (ap : Bool) :
    m.typedWd f ap ≠ .panic ∧ ∀ r, m.typedWd f ap = .ok (some r) →
      ∃ bs, r = famItems f ap bs ∧ bs.length ≤ m.wd.length + m.attrs.length := by
  unfold Msg.typedWd
  split
  · exact ⟨by simp, fun r hr => by cases hr; exact ⟨m.wd, rfl, by omega⟩⟩
  · rcases mpAttr_cases m 15 with h | h | ⟨k, r0, h, hr0⟩
    · simp [h]
    · simp [h]
    · simp only [h]
      split
      · exact ⟨by simp, fun r hr => by cases hr; exact ⟨r0, rfl, by omega⟩⟩
      · simp

theorem typedAnn_spec (m : Msg) (f : Fam) (ap : Bool) :
    m.typedAnn f ap ≠ .panic ∧ ∀ r, m.typedAnn f ap = .ok (some r) →
      ∃ bs, r = famItems f ap bs ∧ bs.length ≤ m.ann.length + m.attrs.length := by
  unfold Msg.typedAnn
  split
  · exact ⟨by simp, fun r hr => by cases hr; exact ⟨m.ann, rfl, by omega⟩⟩
  · rcases mpAttr_cases m 14 with h | h | ⟨k, r0, h, hr0⟩
    · simp [h]
    · simp [h]
    · simp only [h]
      split
      · cases hs : skipNextHop r0 with
        | none => simp
        | some r' =>
          have := skipNextHop_length hs
          exact ⟨by simp, fun r hr => by cases hr; exact ⟨r', rfl, by omega⟩⟩
      · simp

/-! ### `PathAttributes` -/

/-- what the attribute iterator yields: never a panic; a typed item carries a
value its type's `validate` accepted -/
def WireOk (four : Bool) : Outcome Wire → Prop
  | .ok (.typed _ c v) => validate c four v = some true
  | .ok _ => True
  | .err => True
  | .panic => False

theorem classify_ok (four : Bool) (fl tc : UInt8) (v : Bytes) : WireOk four (.ok (classify four fl tc v)) := by
  unfold classify
  split <;> simp_all [WireOk]

theorem paNext_spec (four : Bool) {s s' : Bytes} {i : Outcome Wire} (h : paNext four s = some (i, s')) :
    s'.length < s.length ∧ WireOk four i := by
  revert h
  fun_cases paNext four s
  all_goals intro h; cases h
  case case4 =>
    have := rd16_length ‹_›
    exact ⟨by simp; omega, trivial⟩
  case case5 =>
    have := rd16_length ‹_›
    have := takeN_some_length ‹_›
    exact ⟨by simp; omega, classify_ok _ _ _ _⟩
  case case8 =>
    have := takeN_some_length ‹_›
    exact ⟨by simp; omega, classify_ok _ _ _ _⟩
  all_goals exact ⟨by simp +arith, trivial⟩

theorem paNext_measure (four : Bool) (s : Bytes) (i : Outcome Wire) (s' : Bytes) (h : paNext four s = some (i, s')) :
    s'.length < s.length := (paNext_spec four h).1

theorem pa_collect_ok (four : Bool) (f : Nat) (bs : Bytes) : ∀ x ∈ (collect (paNext four) f bs).1, WireOk four x :=
  collect_forall (paNext four) (I := fun _ => True) (fun _ _ _ _ h => ⟨(paNext_spec four h).2, trivial⟩) f bs trivial

theorem getAttr_mem : ∀ (items : List (Outcome Wire)) (code : Nat) (w : Wire),
    getAttr items code = some w → .ok w ∈ items ∧ w.code = code := by
  intro items code w
  fun_induction getAttr items code with
  | case1 => intro h; cases h
  | case2 r w' hc => intro h; cases h; exact ⟨List.mem_cons_self, hc⟩
  | case3 r w' hc ih => exact fun h => ⟨List.mem_cons_of_mem _ (ih h).1, (ih h).2⟩
  | case4 x r _ ih => exact fun h => ⟨List.mem_cons_of_mem _ (ih h).1, (ih h).2⟩

/-- the checked iterator and the parse-time walk cut the attribute section at the same places: where
`splitAttr` finds a complete TLV, `PathAttributes::next` yields an `Ok` item and goes on after it
(whatever the ASN width the values are classified under) -/
theorem paNext_of_split (four : Bool) (bs : Bytes) (fl tc : UInt8) (v r : Bytes)
    (h : splitAttr bs = some (fl, tc, v, r)) : paNext four bs = some (.ok (classify four fl tc v), r) := by
  revert h
  fun_cases splitAttr bs
  all_goals intro h; cases h
  case case1 => simp [paNext, *]
  case case4 rest _ _ hr _ _ =>
    cases rest with
    | nil => cases hr
    | cons l r1 =>
      cases hr
      simp [paNext, *]

theorem paNext_of_walk (four : Bool) {f : Nat} {bs s' : Bytes} {i : Outcome Wire} (hw : attrsWalk f bs = .ok ())
    (hn : paNext four bs = some (i, s')) : (∃ w, i = .ok w) ∧ ∃ f', attrsWalk f' s' = .ok () := by
  cases bs with
  | nil => simp [paNext] at hn
  | cons b t =>
    cases f with
    | zero => simp [attrsWalk] at hw
    | succ f =>
      simp only [attrsWalk, List.isEmpty_cons, Bool.false_eq_true, ↓reduceIte, parseWire] at hw
      cases hs : splitAttr (b :: t) with
      | none => simp [hs] at hw
      | some q =>
        obtain ⟨fl, tc, v, r⟩ := q
        have hr : attrsWalk f r = .ok () := by
          cases hv : validate tc.toNat true v with
          | none => simpa [hs, hv] using hw
          | some b => cases b <;> simpa [hs, hv] using hw
        rw [paNext_of_split four (b :: t) fl tc v r hs] at hn
        cases hn
        exact ⟨⟨_, rfl⟩, f, hr⟩

/-- on a section the parse-time walk accepted, every item of `path_attributes()` is `Ok` -/
theorem pa_collect_all_ok (four : Bool) : ∀ (g f : Nat) (bs : Bytes), attrsWalk f bs = .ok () →
    ∀ x ∈ (collect (paNext four) g bs).1, ∃ w, x = .ok w := by
  intro g f bs hw
  exact collect_forall (paNext four) (I := fun bs => ∃ f, attrsWalk f bs = .ok ())
    (fun _ _ _ ⟨_, hw⟩ hn => paNext_of_walk four hw hn) g bs ⟨f, hw⟩

/-- the value a typed getter works on was accepted by its type's `validate`
under the message's own ASN width -/
theorem typedValue_valid (m : Msg) (code : Nat) (v : Bytes) (h : m.typedValue code = some v) :
    validate code m.ppi.four v = some true := by
  unfold Msg.typedValue at h
  split at h
  · rename_i hg
    cases h
    obtain ⟨hm, rfl⟩ := getAttr_mem _ _ _ hg
    exact pa_collect_ok m.ppi.four _ _ _ hm
  · cases h

/-! ### community iterators -/

theorem takeN_eq {n : Nat} {bs a r : Bytes} (h : takeN n bs = some (a, r)) :
    a = bs.take n ∧ r = bs.drop n ∧ n ≤ bs.length := by
  unfold takeN at h
  split at h
  · cases h; exact ⟨rfl, rfl, ‹_›⟩
  · cases h

theorem commNext_spec {k : Nat} (hk : 0 < k) {s s' : Bytes} {i : Outcome Bytes} (h : commNext k s = some (i, s')) :
    s'.length < s.length ∧ (s.length % k = 0 → i ≠ .panic ∧ s'.length % k = 0) := by
  unfold commNext at h
  split at h
  · cases h
  · split at h
    · rename_i ht
      obtain ⟨rfl, rfl, hle⟩ := takeN_eq ht
      cases h
      refine ⟨by simp only [List.length_drop]; omega, fun hmod => ⟨by simp, ?_⟩⟩
      rw [List.length_drop]
      exact Nat.sub_mod_eq_zero_of_mod_eq (by rw [hmod, Nat.mod_self])
    · rename_i ht
      cases h
      refine ⟨by simp, fun hmod => ?_⟩
      have := Nat.le_of_dvd (by simp) (Nat.dvd_of_mod_eq_zero hmod)
      simp only [takeN, ite_eq_right_iff, reduceCtorEq, imp_false] at ht
      omega

theorem commItems_ended {k : Nat} (hk : 0 < k) (v : Bytes) : (commItems k v).2 = true :=
  collect_ended _ List.length (fun _ _ _ h => (commNext_spec hk h).1) _ v (by omega)

theorem commItems_length {k : Nat} (hk : 0 < k) (v : Bytes) : (commItems k v).1.length ≤ v.length :=
  (collect_bounded _ List.length (fun _ _ _ h => (commNext_spec hk h).1) _ v).1

theorem comms_some {m : Msg} {code k : Nat} {r : List (Outcome Bytes) × Bool} (h : m.comms code k = some r) :
    ∃ v, m.typedValue code = some v ∧ r = commItems k v := by
  unfold Msg.comms at h
  split at h
  · cases h; exact ⟨_, ‹_›, rfl⟩
  · cases h

/-! ### `collect::<Result<Vec<_>, _>>()` -/

theorem collectResult_ok {α : Type} : ∀ (l : List (Outcome α)) (v : List α),
    collectResult l = .ok v ↔ l = v.map Outcome.ok := by
  intro l v
  fun_induction collectResult l generalizing v
  case case2 hr ih => cases v <;> simp [← ih, hr]
  all_goals cases v <;> simp_all

theorem collectResult_err {α : Type} : ∀ (l : List (Outcome α)), (∀ x ∈ l, x ≠ .panic) →
    (collectResult l = .err ↔ Outcome.err ∈ l) ∧ collectResult l ≠ .panic := by
  intro l hnp
  fun_induction collectResult l
  case case1 | case5 => simp
  case case6 => exact absurd rfl (hnp .panic List.mem_cons_self)
  case case4 hr ih => exact absurd hr (ih fun y hy => hnp y (List.mem_cons_of_mem _ hy)).2
  all_goals
    rename_i hr ih
    have ihr := ih fun y hy => hnp y (List.mem_cons_of_mem _ hy)
    simp [hr] at ihr
    simp [ihr]

/-! ### what acceptance means -/

/-- inversion of `parseUpdate`: every stage an accepted message went through -/
theorem parseUpdate_ok {cfg : Cfg} {bs : Bytes} {m : Msg} (h : parseUpdate cfg bs = .ok m) :
    ∃ hl ty body wl r2 r3 al r4 r5 reach unreach r6,
      headerParse bs = .ok (hl, ty, body) ∧ 19 ≤ hl ∧ ty.toNat = 2 ∧
      rd16 body = some (wl, r2) ∧ takeN wl r2 = some (m.wd, r3) ∧
      convValidate (cfg.rx (1, 1)) m.wd = .ok () ∧
      rd16 r3 = some (al, r4) ∧ takeN al r4 = some (m.attrs, r5) ∧
      attrsWalk m.attrs.length m.attrs = .ok () ∧
      mpScan m.attrs.length m.attrs none none = .ok (reach, unreach) ∧
      2 + wl + 2 + al ≤ hl - 19 ∧ takeN (hl - 19 - (2 + wl + 2 + al)) r5 = some (m.ann, r6) ∧
      convValidate (cfg.rx (1, 1)) m.ann = .ok () ∧
      m.body = body.take (hl - 19) ∧ m.ppi = Ppi.ofCfg cfg reach unreach := by
  unfold parseUpdate at h
  -- every arm but the last is `.err` or `.panic`; on the last, the stages' findings are in the context
  repeat' split at h
  any_goals cases h
  exact ⟨_, _, _, _, _, _, _, _, _, _, _, _, ‹_›, by omega, by omega, ‹_›, ‹_›, ‹_›, ‹_›, ‹_›, ‹_›, ‹_›, by omega, ‹_›,
    ‹_›, rfl, rfl⟩

theorem parseUpdate_ok_attrs {cfg : Cfg} {bs : Bytes} {m : Msg} (h : parseUpdate cfg bs = .ok m) :
    attrsWalk m.attrs.length m.attrs = .ok () := by
  obtain ⟨_, _, _, _, _, _, _, _, _, _, _, _, _, _, _, _, _, _, _, _, hw, _⟩ := parseUpdate_ok h
  exact hw

theorem parseUpdate_ok_ppi {cfg : Cfg} {bs : Bytes} {m : Msg} (h : parseUpdate cfg bs = .ok m) :
    m.ppi.four = cfg.four ∧ m.ppi.conv = cfg.rx (1, 1) := by
  obtain ⟨_, _, _, _, _, _, _, _, _, _, _, _, _, _, _, _, _, _, _, _, _, _, _, _, _, _, hp⟩ := parseUpdate_ok h
  rw [hp]
  exact ⟨rfl, rfl⟩

end Rc.Upd
