/-
Lemmas about `Rc.Framing.parseFrame` / `decodeMsg` / `drain` / `feed`: the closed forms of the two decoding steps,
and what more octets do to a buffer (`parseFrame_append`, `drain_feed`: the key lemma of the chunking theorems of
C09).  Shared by `Rc/Thm/C09.lean` and the whole-session lemmas `Rc/Lemmas/Session.lean`.
-/
import Rc.Model.Framing

namespace Rc.Framing
open Rc

variable {μ : Type}

@[elab_as_elim] theorem okOrErr {α : Type} {motive : Outcome α → Prop} {x : Outcome α} (hx : x ≠ .panic)
    (ok : ∀ a, motive (.ok a)) (err : motive .err) : motive x := by
  cases x with
  | ok a => exact ok a
  | err => exact err
  | panic => exact absurd rfl hx

theorem getD_append_left (a c : Bytes) (i : Nat) (h : i < a.length) :
    (a ++ c).getD i 0 = a.getD i 0 := by
  simp [List.getD, List.getElem?_append_left h]

theorem lenField_append (a c : Bytes) (h : 18 ≤ a.length) :
    lenField (a ++ c) = lenField a := by
  unfold lenField
  rw [getD_append_left a c 16 (by omega), getD_append_left a c 17 (by omega)]

theorem parseFrame_eq (dec : Bytes → Outcome μ) (buf : Bytes) :
    parseFrame dec buf =
      if buf.length < 18 then .ok none
      else if lenField buf < 19 then .err
      else if buf.length < lenField buf then .ok none
      else (dec (buf.take (lenField buf))).bind fun m =>
        .ok (some ((m, buf.take (lenField buf)), buf.drop (lenField buf))) := by
  unfold parseFrame
  by_cases h1 : buf.length < 18
  · rw [if_pos h1, if_pos h1]
  · by_cases h2 : lenField buf < 19
    · simp only [if_neg h1, if_pos h2]
    · have hs : checkedSub (lenField buf) 18 = some (lenField buf - 18) := if_pos (by omega)
      simp only [if_neg h1, if_neg h2, hs]
      by_cases h3 : buf.length < lenField buf
      · rw [if_neg (by omega), if_pos h3]
      · have ht : takeN (lenField buf) buf = some (buf.take (lenField buf), buf.drop (lenField buf)) :=
          if_pos (by omega)
        rw [if_pos (by omega), if_neg h3, ht]
        dsimp only
        cases dec (buf.take (lenField buf)) <;> rfl

/-- map the rest buffer of a `parseFrame` result -/
def extend (c : Bytes) : Outcome (Option (Frame μ × Bytes)) → Outcome (Option (Frame μ × Bytes))
  | .ok (some (f, r)) => .ok (some (f, r ++ c))
  | o => o

/-- Once `parse_frame` has decided (frame, error or panic) more bytes do not change the
decision: only the rest buffer grows. -/
theorem parseFrame_append (dec : Bytes → Outcome μ) (buf c : Bytes)
    (h : parseFrame dec buf ≠ .ok none) :
    parseFrame dec (buf ++ c) = extend c (parseFrame dec buf) := by
  rw [parseFrame_eq] at h
  rw [parseFrame_eq, parseFrame_eq dec buf]
  by_cases h1 : buf.length < 18
  · exact absurd (if_pos h1) h
  · rw [if_neg h1] at h
    rw [if_neg h1, if_neg (by rw [List.length_append]; omega), lenField_append buf c (by omega)]
    by_cases h2 : lenField buf < 19
    · rw [if_pos h2, if_pos h2]; rfl
    · rw [if_neg h2] at h
      by_cases h3 : buf.length < lenField buf
      · exact absurd (if_pos h3) h
      · rw [if_neg h2, if_neg h2, if_neg h3, if_neg (by rw [List.length_append]; omega),
          List.take_append_of_le_length (by omega), List.drop_append_of_le_length (by omega)]
        cases dec (buf.take (lenField buf)) <;> rfl

theorem parseFrame_append_of_eq {dec : Bytes → Outcome μ} {buf : Bytes} {o : Outcome (Option (Frame μ × Bytes))}
    (c : Bytes) (h : parseFrame dec buf = o) (ho : o ≠ .ok none) : parseFrame dec (buf ++ c) = extend c o :=
  h ▸ parseFrame_append dec buf c (h ▸ ho)

theorem parseFrame_frame_append (dec : Bytes → Outcome μ) (m tail : Bytes) (h19 : 19 ≤ m.length)
    (hlen : lenField m = m.length) :
    parseFrame dec (m ++ tail) = (dec m).bind fun v => .ok (some ((v, m), tail)) := by
  have hl : lenField (m ++ tail) = m.length := by rw [lenField_append m tail (by omega), hlen]
  rw [parseFrame_eq, hl, if_neg (by rw [List.length_append]; omega), if_neg (by omega),
    if_neg (by rw [List.length_append]; omega), List.take_left' rfl, List.drop_left' rfl]

/-- `parse_frame` itself has no reachable panic (statement: `Rc.Thm.C09.parseFrame_ne_panic`) -/
theorem parseFrame_ne_panic' (dec : Bytes → Outcome μ) (hdec : ∀ b, dec b ≠ .panic) (buf : Bytes) :
    parseFrame dec buf ≠ .panic := by
  rw [parseFrame_eq]
  split
  · nofun
  · split
    · nofun
    · split
      · nofun
      · exact okOrErr (hdec _) (fun _ => nofun) nofun

theorem decodeMsg_eq (body : Bytes → Outcome WireMsg) (f : Bytes) :
    decodeMsg body f =
      if 19 ≤ f.length ∧ f.take 16 = marker ∧
          ((f.getD 18 0).toNat = 1 ∨ (f.getD 18 0).toNat = 2 ∨ (f.getD 18 0).toNat = 3 ∨
           (f.getD 18 0).toNat = 4 ∨ (f.getD 18 0).toNat = 5)
      then body f else .err := by
  unfold decodeMsg
  by_cases hl : f.length < 19
  · simp only [if_pos hl, ite_self, Nat.not_le.mpr hl, false_and, if_false]
  · by_cases hm : f.take 16 = marker
    · simp only [if_neg hl, hm, ne_eq, not_true_eq_false, if_false, if_neg (show ¬ f.length < 16 by omega),
        if_neg (show ¬ f.length < 18 by omega), Nat.not_lt.mp hl, true_and]
    · simp only [ne_eq, hm, not_false_eq_true, if_true, ite_self, false_and, and_false, if_false]

theorem drain_none {dec : Bytes → Outcome μ} {buf : Bytes}
    (h : parseFrame dec buf = .ok none) : drain dec buf = ([], .ok buf) := by
  rw [drain]; split <;> simp_all

theorem drain_err {dec : Bytes → Outcome μ} {buf : Bytes}
    (h : parseFrame dec buf = .err) : drain dec buf = ([], .err) := by
  rw [drain]; split <;> simp_all

theorem drain_panic {dec : Bytes → Outcome μ} {buf : Bytes}
    (h : parseFrame dec buf = .panic) : drain dec buf = ([], .panic) := by
  rw [drain]; split <;> simp_all

theorem drain_some {dec : Bytes → Outcome μ} {buf : Bytes} {m : μ} {frame rest : Bytes}
    (h : parseFrame dec buf = .ok (some ((m, frame), rest))) :
    drain dec buf = ((m, frame) :: (drain dec rest).1, (drain dec rest).2) := by
  rw [drain]; split <;> simp_all

theorem drain_nil (dec : Bytes → Outcome μ) : drain dec [] = ([], .ok []) :=
  drain_none (by rw [parseFrame_eq]; rfl)

/-- continue a run: what `drain` leaves in the buffer gets `c` appended and is drained again -/
def cont (dec : Bytes → Outcome μ) (c : Bytes) (r : Run μ) : Run μ :=
  match r.2 with
  | .ok rest => (r.1 ++ (drain dec (rest ++ c)).1, (drain dec (rest ++ c)).2)
  | _ => r

theorem cont_eq_feed (dec : Bytes → Outcome μ) (c : Bytes) (r : Run μ) : cont dec c r = feed dec r c := rfl

theorem feed_cons (dec : Bytes → Outcome μ) (f : Frame μ) (r : Run μ) (c : Bytes) :
    feed dec (f :: r.1, r.2) c = (f :: (feed dec r c).1, (feed dec r c).2) := by
  obtain ⟨fs, e⟩ := r
  cases e <;> rfl

theorem drain_feed (dec : Bytes → Outcome μ) (c buf : Bytes) : drain dec (buf ++ c) = feed dec (drain dec buf) c := by
  fun_induction drain dec buf with
  | case1 buf h => simp [feed]
  | case2 buf h => rw [drain_err (parseFrame_append_of_eq c h nofun)]; rfl
  | case3 buf h => rw [drain_panic (parseFrame_append_of_eq c h nofun)]; rfl
  | case4 buf m frame rest h _ r ih =>
    rw [drain_some (parseFrame_append_of_eq c h nofun), ih, feed_cons]

theorem drain_append (dec : Bytes → Outcome μ) (c : Bytes) :
    ∀ (n : Nat) (buf : Bytes), buf.length ≤ n → drain dec (buf ++ c) = cont dec c (drain dec buf) :=
  fun _ buf _ => drain_feed dec c buf

theorem foldl_feed_drain (dec : Bytes → Outcome μ) :
    ∀ (cs : List Bytes) (b : Bytes), cs.foldl (feed dec) (drain dec b) = drain dec (b ++ cs.flatten) := by
  intro cs
  induction cs with
  | nil => intro b; simp
  | cons c cs ih =>
    intro b
    rw [List.foldl_cons, ← drain_feed, ih, List.flatten_cons, List.append_assoc]

end Rc.Framing
