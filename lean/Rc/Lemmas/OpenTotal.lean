/-
Totality lemmas for the OPEN model: nothing in `fromOctets` can panic, and
what `openCheck` accepted is exactly what the lazy iterators later walk over.
-/
import Rc.Model.Open
import Rc.Lemmas.Header

namespace Rc.Open
open Rc

/-- the codes `Capability::parse` has a content rule for (the order of its `match`) -/
def ruledCodes : List Nat :=
  [1, 2, 3, 130, 5, 6, 8, 9, 64, 65, 66, 67, 68, 131, 69, 70, 71, 73, 75, 76, 128]

theorem capContent_unruled {code : Nat} (h : code ∉ ruledCodes) (len : Nat) (body : Bytes) :
    capContent code len body = .ok () := by
  unfold capContent
  split
  rotate_right
  · rfl
  all_goals exact absurd (by decide) h

theorem req_ok {p : Prop} [Decidable p] :
    ((if p then Outcome.ok () else Outcome.err) = Outcome.ok ()) ↔ p := by
  by_cases h : p <;> simp [h]

theorem req_np {p : Prop} [Decidable p] : (if p then Outcome.ok () else Outcome.err) ≠ .panic := by
  split <;> nofun

theorem capContent_ne_panic (code len : Nat) (body : Bytes) : capContent code len body ≠ .panic := by
  fun_cases capContent code len body
  -- a `body` too short for the shape the ORF, AddPath, FQDN or SoftwareVersion rule looks at; a code without a rule
  case case4 | case6 | case18 | case22 | case23 | case25 | case28 => nofun
  all_goals exact req_np

theorem parseCap_ne_panic (rest : Bytes) : parseCap rest ≠ .panic := by
  fun_cases parseCap rest with
  | case4 _ _ _ h => exact absurd h (capContent_ne_panic _ _ _)
  | _ => nofun

theorem capsCheck_succ (fuel : Nat) {rest : Bytes} (h : rest ≠ []) :
    capsCheck (fuel + 1) rest = match parseCap rest with
      | .ok (_, r) => capsCheck fuel r
      | .err => .err
      | .panic => .panic := by
  cases rest with
  | nil => exact absurd rfl h
  | cons _ _ => rfl

theorem capsCheck_ne_panic (fuel : Nat) (rest : Bytes) : capsCheck fuel rest ≠ .panic := by
  fun_induction capsCheck fuel rest with
  | case1 | case2 | case4 => nofun
  | case3 _ _ _ _ _ _ ih => exact ih
  | case5 _ _ _ h => exact absurd h (parseCap_ne_panic _)

theorem paramCheck_ne_panic (rest : Bytes) : paramCheck rest ≠ .panic := by
  fun_cases paramCheck rest with
  | case4 _ _ _ _ _ _ _ h => exact absurd h (capsCheck_ne_panic _ _)
  | _ => nofun

theorem paramsCheck_succ (fuel : Nat) {rest : Bytes} (h : rest ≠ []) :
    paramsCheck (fuel + 1) rest = match paramCheck rest with
      | .ok r => paramsCheck fuel r
      | .err => .err
      | .panic => .panic := by
  cases rest with
  | nil => exact absurd rfl h
  | cons _ _ => rfl

theorem paramsCheck_ne_panic (fuel : Nat) (rest : Bytes) : paramsCheck fuel rest ≠ .panic := by
  fun_induction paramsCheck fuel rest with
  | case1 | case2 | case4 => nofun
  | case3 _ _ _ _ _ ih => exact ih
  | case5 _ _ _ h => exact absurd h (paramCheck_ne_panic _)

theorem openCheck_ne_panic (bs : Bytes) : openCheck bs ≠ .panic := by
  fun_cases openCheck bs with
  | case8 _ _ _ _ _ _ _ _ h => exact absurd h (paramsCheck_ne_panic _ _)
  | _ => nofun

/-- the facts about a capability that `my_asn` and `multiprotocol_ids` rely on -/
def GoodCap (c : Cap) : Prop :=
  (c.code.toNat = 65 → c.value.length = 4) ∧ (c.code.toNat = 1 → c.value.length = 4)

theorem len_eq_of_fixedLen_rule {n len : Nat} {body : Bytes}
    (h : (if (len == n && decide (n ≤ body.length)) = true then Outcome.ok () else Outcome.err) = .ok ()) :
    len = n := by
  rw [req_ok, Bool.and_eq_true, beq_iff_eq] at h
  exact h.1

theorem parseCap_ok {rest r : Bytes} {c : Cap} (h : parseCap rest = .ok (c, r)) :
    ∃ len : UInt8, rest = c.code :: len :: (c.value ++ r) ∧ c.value.length = len.toNat ∧
      capContent c.code.toNat len.toNat (c.value ++ r) = .ok () := by
  revert h
  fun_cases parseCap rest with
  | case1 _ len _ hcc _ _ ht =>
    intro h
    cases h
    have ⟨hv, hb⟩ := takeN_length ht
    exact ⟨len, by rw [hb], hv, hb ▸ hcc⟩
  | _ => nofun

theorem parseCap_good {rest r : Bytes} {c : Cap} (h : parseCap rest = .ok (c, r)) : GoodCap c := by
  obtain ⟨len, rfl, hv, hcc⟩ := parseCap_ok h
  refine ⟨fun h65 => ?_, fun h1 => ?_⟩
  · rw [h65] at hcc
    exact hv.trans (len_eq_of_fixedLen_rule hcc)
  · rw [h1] at hcc
    exact hv.trans (len_eq_of_fixedLen_rule hcc)

theorem capsCheck_iter (fuel : Nat) (rest : Bytes) (h : capsCheck fuel rest = .ok ()) :
    (capsIter fuel rest).2 = false ∧ ∀ c ∈ (capsIter fuel rest).1, GoodCap c := by
  fun_induction capsCheck fuel rest with
  | case1 => simp [capsIter]
  | case2 | case4 | case5 => cases h
  | case3 _ _ _ _ _ hp ih =>
    simp only [capsIter, hp]
    exact ⟨(ih h).1, List.forall_mem_cons.mpr ⟨parseCap_good hp, (ih h).2⟩⟩

def GoodParam (q : Param) : Prop :=
  q.typ.toNat = 2 → (capsIter q.value.length q.value).2 = false ∧
    ∀ c ∈ (capsIter q.value.length q.value).1, GoodCap c

theorem paramCheck_ok {rest r : Bytes} (h : paramCheck rest = .ok r) :
    ∃ (typ len : UInt8) (v : Bytes), rest = typ :: len :: (v ++ r) ∧ takeN len.toNat (v ++ r) = some (v, r) ∧
      (typ.toNat = 2 → capsCheck v.length v = .ok ()) := by
  revert h
  fun_cases paramCheck rest with
  | case2 typ len _ v _ ht _ hc =>
    intro h
    cases h
    obtain ⟨_, rfl⟩ := takeN_length ht
    exact ⟨typ, len, v, rfl, ht, fun _ => hc⟩
  | case5 typ len _ v _ ht h2 =>
    intro h
    cases h
    obtain ⟨_, rfl⟩ := takeN_length ht
    exact ⟨typ, len, v, rfl, ht, fun h => absurd h h2⟩
  | _ => nofun

theorem paramsCheck_iter (fuel : Nat) (rest : Bytes) (h : paramsCheck fuel rest = .ok ()) :
    (paramsIter fuel rest).2 = false ∧ ∀ q ∈ (paramsIter fuel rest).1, GoodParam q := by
  fun_induction paramsCheck fuel rest with
  | case1 => simp [paramsIter]
  | case2 | case4 | case5 => cases h
  | case3 _ _ _ _ hp ih =>
    obtain ⟨typ, len, v, rfl, ht, hcc⟩ := paramCheck_ok hp
    unfold paramsIter
    simp only [ht]
    exact ⟨(ih h).1, List.forall_mem_cons.mpr ⟨fun h2 => capsCheck_iter _ _ (hcc h2), (ih h).2⟩⟩

theorem flatCaps_good (ps : List Param) (h : ∀ q ∈ ps, GoodParam q) :
    (flatCaps ps false).2 = false ∧ ∀ c ∈ (flatCaps ps false).1, GoodCap c := by
  fun_induction flatCaps ps false with
  | case1 => simp
  | case2 q _ _ h2 _ hci =>
    have := (h q (by simp) h2).1
    rw [hci] at this
    cases this
  | case3 q _ _ h2 _ _ hci _ _ _ hfl ih =>
    have ⟨j1, j2⟩ := ih fun q' hq' => h q' (by simp [hq'])
    have g := (h q (by simp) h2).2
    rw [hci] at g
    rw [hfl] at j1 j2
    exact ⟨j1, List.forall_mem_append.mpr ⟨g, j2⟩⟩
  | case4 _ _ _ _ ih => exact ih fun q' hq' => h q' (by simp [hq'])

theorem openCheck_ok {bs : Bytes} (h : openCheck bs = .ok ()) :
    ∃ (t : UInt8) (f9 : Bytes) (opl : UInt8) (ps : Bytes),
      bs = (header bs.length t ++ f9 ++ [opl]) ++ ps ∧ f9.length = 9 ∧ ps.length = opl.toNat ∧
      bs.length < 65536 ∧ paramsCheck ps.length ps = .ok () := by
  revert h
  fun_cases openCheck bs with
  | case6 r hc f9 opl _ ps trailing hps hpc htr h9 =>
    intro _
    obtain ⟨t, hb, hlt, _⟩ := headerCheck_some hc
    have ⟨hf9, hr⟩ := takeN_length h9
    have ⟨hpl, hr2⟩ := takeN_length hps
    obtain rfl : trailing = [] := List.eq_nil_of_length_eq_zero (by omega)
    refine ⟨t, f9, opl, ps, ?_, hf9, hpl, hlt, hpc⟩
    conv => lhs; rw [hb, hr, hr2]
    simp
  | _ => nofun

theorem idx_of_lt {bs : Bytes} {i : Nat} (h : i < bs.length) : idx bs i = .ok bs[i] := by
  simp [idx, h]

theorem slice_of_le {bs : Bytes} {a b : Nat} (h : a ≤ b ∧ b ≤ bs.length) :
    slice bs a b = .ok ((bs.drop a).take (b - a)) := by
  simp [slice, h]

/-- `parameters()` of an accepted OPEN iterates exactly the bytes the check looped over -/
theorem parameters_of_layout (pre : Bytes) (opl : UInt8) (ps : Bytes) (hpre : pre.length = 28)
    (hps : ps.length = opl.toNat) :
    parameters ((pre ++ [opl]) ++ ps) = .ok (paramsIter ps.length ps) := by
  unfold parameters
  have h29 : takeN 29 ((pre ++ [opl]) ++ ps) = some (pre ++ [opl], ps) := by
    have : (pre ++ [opl]).length = 29 := by simp [hpre]
    rw [← this]; exact takeN_append _ _
  have hi : idx ((pre ++ [opl]) ++ ps) 28 = .ok opl := by
    unfold idx
    rw [List.append_assoc, List.getElem?_append_right (by omega)]
    simp [hpre]
  have ht : takeN opl.toNat ps = some (ps, []) := by
    rw [← hps]; simpa using takeN_append ps []
  simp only [h29, hi, ht]

theorem be32val_of_len {v : Bytes} (h : v.length = 4) : ∃ n, be32val v = .ok n := by
  match v, h with
  | [a, b, c, d], _ => exact ⟨_, rfl⟩

theorem apLoop_ne_panic (cs : List Cap) : apLoop cs false ≠ .panic := by
  induction cs with
  | nil => simp [apLoop]
  | cons c cs ih =>
    unfold apLoop
    split
    · split
      · simp
      · split
        · simp
        · simp
        · rename_i h; exact absurd h ih
    · exact ih

theorem lazyFind_noPanic {α} (p : α → Bool) (l : List α) :
    lazyFind p (l, false) = .ok (l.find? p) := by
  unfold lazyFind
  cases l.find? p <;> simp

end Rc.Open
