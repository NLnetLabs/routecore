/-
Lemmas about the model Rc/Model/PaMap.lean.

* `MapInv`: how a property of maps travels along every history of map operations
  (C17's `Inv`, the glue's `ValOk`).
* The AS path normal form (`parseSegs` / `parseSegs2` → `toHops` → `composeHops`) is a fixed
  point of the four-octet reading: what `HopPath::to_as_path` writes parses, and dissolves into
  the same hops.
-/
import Rc.Model.PaMap

namespace Rc.PaMap
open Rc

theorem lookup_cons (c : Nat) (b : Attr) (m : Map) :
    lookup c (b :: m) = if b.code = c then some b else lookup c m := rfl

theorem lookup_mem {c : Nat} {m : Map} {a : Attr} (h : lookup c m = some a) : a ∈ m ∧ a.code = c := by
  fun_induction lookup c m with
  | case1 => cases h
  | case2 b m hb => cases h; exact ⟨List.mem_cons_self, hb⟩
  | case3 b m hb ih => exact ⟨List.mem_cons_of_mem _ (ih h).1, (ih h).2⟩

theorem mem_ins (a x : Attr) (m : Map) (h : x ∈ ins a m) : x = a ∨ x ∈ m := by
  fun_induction ins a m with
  | case1 => simpa using h
  | case2 b m _ => simpa using h
  | case3 b m _ _ => exact (List.mem_cons.mp h).imp_right (List.mem_cons_of_mem _)
  | case4 b m _ _ ih =>
    rcases List.mem_cons.mp h with h | h
    · exact .inr (h ▸ List.mem_cons_self)
    · exact (ih h).imp_right (List.mem_cons_of_mem _)

theorem del_sublist (c : Nat) (m : Map) : (del c m).Sublist m := by
  fun_induction del c m with
  | case1 => exact List.Sublist.refl _
  | case2 b m _ => exact List.sublist_cons_self b m
  | case3 b m _ ih => exact ih.cons_cons b

structure MapInv (I : Map → Prop) (Q : Attr → Prop) : Prop where
  nil : I []
  ins : ∀ {a m}, I m → Q a → I (ins a m)
  del : ∀ {c m}, I m → I (del c m)
  filter : ∀ {p m}, I m → I (m.filter p)
  mem : ∀ {m}, I m → ∀ a ∈ m, Q a
  owned : ∀ w, Q (ownedOf w)

def Op.ArgOk (Q : Attr → Prop) : Op → Prop
  | .set a | .setFromEnum a | .add a => Q a
  | _ => True

namespace MapInv
variable {I : Map → Prop} {Q : Attr → Prop}

theorem all (howned : ∀ w, Q (ownedOf w)) : MapInv (fun m => ∀ a ∈ m, Q a) Q where
  nil := nofun
  ins hm ha x hx := (mem_ins _ x _ hx).elim (· ▸ ha) (hm x)
  del hm x hx := hm x ((del_sublist _ _).subset hx)
  filter hm x hx := hm x (List.mem_filter.mp hx).1
  mem hm := hm
  owned := howned

theorem foldl_ins (h : MapInv I Q) (o m : Map) (ho : ∀ a ∈ o, Q a) (hm : I m) :
    I (o.foldl (fun acc a => PaMap.ins a acc) m) := by
  induction o generalizing m with
  | nil => exact hm
  | cons b o ih =>
    exact ih (PaMap.ins b m) (fun a ha => ho a (List.mem_cons_of_mem _ ha)) (h.ins hm (ho b List.mem_cons_self))

theorem fromWire (h : MapInv I Q) (ws : List Wire) (m : Map) (hm : I m) : I (PaMap.fromWire ws m) := by
  fun_induction PaMap.fromWire ws m with
  | case1 => exact hm
  | case2 _ _ _ _ ih => exact ih hm
  | case3 _ _ _ _ _ _ ih => exact ih hm
  | case4 w _ _ _ _ ih => exact ih (h.ins hm (h.owned w))

theorem fromUpdate (h : MapInv I Q) (u : Update) : I (PaMap.fromUpdate u) := h.fromWire u.attrs [] h.nil

theorem step (h : MapInv I Q) (s : St) (o : Op) (ho : o.ArgOk Q) (ha : I s.a) (hb : I s.b) :
    I (PaMap.step s o).a ∧ I (PaMap.step s o).b := by
  cases o with
  | set x => exact ⟨h.ins ha ho, hb⟩
  | setFromEnum x =>
    refine ⟨?_, hb⟩
    simp only [PaMap.step, setFromEnum]
    split
    · exact h.ins ha ho
    · exact ha
  | add x => exact ⟨h.ins ha ho, hb⟩
  | get c => exact ⟨ha, hb⟩
  | remove c => exact ⟨h.del ha, hb⟩
  | rnt => exact ⟨h.filter ha, hb⟩
  | swap => exact ⟨hb, ha⟩
  | merge => exact ⟨h.foldl_ins s.b s.a (h.mem hb) ha, h.nil⟩
  | fromUpdate u => exact ⟨h.fromUpdate u, hb⟩
  | mergeUpdate u => exact ⟨h.foldl_ins _ s.a (h.mem (h.fromUpdate u)) ha, hb⟩

theorem run (h : MapInv I Q) (ops : List Op) (ho : ∀ o ∈ ops, o.ArgOk Q) (s : St) (ha : I s.a) (hb : I s.b) :
    I (PaMap.run s ops).a ∧ I (PaMap.run s ops).b := by
  induction ops generalizing s with
  | nil => exact ⟨ha, hb⟩
  | cons o ops ih =>
    have := h.step s o (ho o List.mem_cons_self) ha hb
    exact ih (fun o' ho' => ho o' (List.mem_cons_of_mem _ ho')) (PaMap.step s o) this.1 this.2

end MapInv

abbrev SegB := UInt8 × List Bytes

/-- RFC 4271 4.3 b: type, count, the AS numbers -/
def encSegB (s : SegB) : Bytes := [s.1, UInt8.ofNat s.2.length] ++ s.2.flatten

def encSegsB (ss : List SegB) : Bytes := ss.flatMap encSegB

/-- a segment `parseSegs` returns: type 1..=4, at most 255 AS numbers of four octets -/
def SegOk (s : SegB) : Prop := 1 ≤ s.1.toNat ∧ s.1.toNat ≤ 4 ∧ s.2.length ≤ 255 ∧ ∀ a ∈ s.2, a.length = 4

theorem takeAsns_flatten : ∀ (l : List Bytes) (rest : Bytes), (∀ a ∈ l, a.length = 4) →
    takeAsns l.length (l.flatten ++ rest) = some (l, rest)
  | [], rest, _ => rfl
  | a :: l, rest, h =>
    match a, h a List.mem_cons_self with
    | [x, y, z, w], _ => by
      have ih := takeAsns_flatten l rest (fun b hb => h b (List.mem_cons_of_mem _ hb))
      simp only [List.length_cons, List.flatten_cons, List.cons_append, List.nil_append, takeAsns, ih]

theorem parseSegs_enc : ∀ (ss : List SegB), (∀ s ∈ ss, SegOk s) → ∀ fuel, ss.length ≤ fuel →
    parseSegs fuel (encSegsB ss) = some ss
  | [], _, fuel, _ => by cases fuel <;> rfl
  | s :: ss, h, 0, hf => nomatch hf
  | s :: ss, h, fuel + 1, hf => by
    obtain ⟨⟨h1, h4, hl, ha⟩, hss⟩ := List.forall_mem_cons.mp h
    have hn : (UInt8.ofNat s.2.length).toNat = s.2.length := UInt8.toNat_ofNat_of_lt' (Nat.lt_succ_of_le hl)
    show parseSegs (fuel + 1) (s.1 :: UInt8.ofNat s.2.length :: (s.2.flatten ++ encSegsB ss)) = _
    rw [parseSegs, if_pos ⟨h1, h4⟩, hn, takeAsns_flatten s.2 _ ha]
    simp only [parseSegs_enc ss hss fuel (Nat.le_of_succ_le_succ hf)]

theorem toHops_append (a b : List SegB) : toHops (a ++ b) = toHops a ++ toHops b := by
  fun_induction toHops a with
  | case1 => rfl
  | case2 t asns r h ih => rw [List.cons_append, toHops, if_pos h, ih, List.append_assoc]
  | case3 t asns r h ih => rw [List.cons_append, toHops, if_neg h, ih, List.cons_append]

/-- the segments `chunks255` writes -/
def chunkSegs : Nat → List Bytes → List SegB
  | 0, _ => []
  | _, [] => []
  | fuel + 1, l => (2, l.take 255) :: chunkSegs fuel (l.drop 255)

/-- the segments `flushRun` writes -/
def runSegs (run : List Bytes) : List SegB :=
  (if run.length % 255 = 0 then [] else [((2 : UInt8), run.take (run.length % 255))]) ++
    chunkSegs run.length (run.drop (run.length % 255))

theorem chunks255_eq : ∀ (fuel : Nat) (l : List Bytes), chunks255 fuel l = encSegsB (chunkSegs fuel l)
  | 0, l => by simp [chunks255, chunkSegs, encSegsB]
  | fuel + 1, [] => by simp [chunks255, chunkSegs, encSegsB]
  | fuel + 1, a :: l => by
    have := chunks255_eq fuel ((a :: l).drop 255)
    simp only [chunks255, chunkSegs, encSegsB, List.flatMap_cons, this, seqSeg, encSegB] at *

theorem flushRun_eq (run : List Bytes) : flushRun run = encSegsB (runSegs run) := by
  simp only [flushRun, runSegs, chunks255_eq]
  split <;> simp [encSegsB, seqSeg, encSegB]

theorem seq_cons_spec {run : List Bytes} {ss : List SegB} {hops : List Hop} (hne : run ≠ [])
    (hlen : run.length ≤ 255) (h4 : ∀ a ∈ run, a.length = 4) (hs : (∀ s ∈ ss, SegOk s) ∧ toHops ss = hops) :
    (∀ s ∈ (2, run) :: ss, SegOk s) ∧ toHops ((2, run) :: ss) = run.map Hop.asn ++ hops :=
  ⟨List.forall_mem_cons.mpr ⟨⟨(by decide : 1 ≤ (2 : UInt8).toNat), (by decide : (2 : UInt8).toNat ≤ 4), hlen, h4⟩, hs.1⟩,
    by rw [toHops, if_pos ⟨rfl, hne⟩, hs.2]⟩

theorem chunkSegs_spec : ∀ (fuel : Nat) (l : List Bytes), l.length ≤ fuel → (∀ a ∈ l, a.length = 4) →
    (∀ s ∈ chunkSegs fuel l, SegOk s) ∧ toHops (chunkSegs fuel l) = l.map Hop.asn := by
  intro fuel l
  fun_induction chunkSegs fuel l with
  | case1 l =>
    intro hl _
    cases List.eq_nil_of_length_eq_zero (Nat.le_zero.mp hl)
    exact ⟨nofun, rfl⟩
  | case2 => exact fun _ _ => ⟨nofun, rfl⟩
  | case3 fuel l hne ih =>
    intro hl h4
    have hne : l.take 255 ≠ [] := fun h => (List.take_eq_nil_iff.mp h).elim nofun (hne · )
    have := seq_cons_spec hne (List.length_take_le _ _) (fun x hx => h4 x (List.mem_of_mem_take hx))
      (ih (by rw [List.length_drop]; omega) fun x hx => h4 x (List.mem_of_mem_drop hx))
    rwa [← List.map_append, List.take_append_drop] at this

theorem runSegs_spec (run : List Bytes) (h4 : ∀ a ∈ run, a.length = 4) :
    (∀ s ∈ runSegs run, SegOk s) ∧ toHops (runSegs run) = run.map Hop.asn := by
  have c := chunkSegs_spec run.length (run.drop (run.length % 255)) (by simp)
    (fun x hx => h4 x (List.mem_of_mem_drop hx))
  unfold runSegs
  by_cases hz : run.length % 255 = 0
  · simp only [hz, if_true, List.nil_append, List.drop_zero] at c ⊢
    exact c
  · have hne : run.take (run.length % 255) ≠ [] := fun h =>
      (List.take_eq_nil_iff.mp h).elim hz fun e => hz (e ▸ rfl)
    have := seq_cons_spec hne (Nat.le_trans (List.length_take_le _ _) (Nat.le_of_lt (Nat.mod_lt _ (by decide))))
      (fun x hx => h4 x (List.mem_of_mem_take hx)) c
    rw [if_neg hz]
    rwa [← List.map_append, List.take_append_drop] at this

/-- hops as `toHops` produces them from parsed segments: four-octet AS numbers, segment hops
of type 1..=4 with at most 255 AS numbers that are not a non-empty AS_SEQUENCE -/
def HopOk : Hop → Prop
  | .asn a => a.length = 4
  | .seg t asns => SegOk (t, asns) ∧ ¬ (t = 2 ∧ asns ≠ [])

/-- the segments `composeHops` writes -/
def segsOf : List Hop → List Bytes → List SegB
  | [], run => runSegs run.reverse
  | .asn a :: r, run => segsOf r (a :: run)
  | .seg t asns :: r, run => runSegs run.reverse ++ (t, asns) :: segsOf r []

theorem composeHops_eq : ∀ (H : List Hop) (run : List Bytes), composeHops H run = encSegsB (segsOf H run)
  | [], run => by simp [composeHops, segsOf, flushRun_eq]
  | .asn a :: r, run => by simp [composeHops, segsOf, composeHops_eq r]
  | .seg t asns :: r, run => by
    simp [composeHops, segsOf, composeHops_eq r, flushRun_eq, encSegsB, encSegB, List.append_assoc]

theorem segsOf_spec : ∀ (H : List Hop) (run : List Bytes), (∀ h ∈ H, HopOk h) → (∀ a ∈ run, a.length = 4) →
    (∀ s ∈ segsOf H run, SegOk s) ∧ toHops (segsOf H run) = run.reverse.map Hop.asn ++ H := by
  intro H run
  fun_induction segsOf H run with
  | case1 run =>
    intro _ hr
    rw [List.append_nil]
    exact runSegs_spec run.reverse fun a ha => hr a (List.mem_reverse.mp ha)
  | case2 a r run ih =>
    intro hH hr
    obtain ⟨ha, hH⟩ := List.forall_mem_cons.mp hH
    have := ih hH (List.forall_mem_cons.mpr ⟨ha, hr⟩)
    rwa [List.reverse_cons, List.map_append, List.append_assoc] at this
  | case3 t asns r run ih =>
    intro hH hr
    obtain ⟨⟨hs, hnorm⟩, hH⟩ := List.forall_mem_cons.mp hH
    obtain ⟨r1, r2⟩ := runSegs_spec run.reverse fun a ha => hr a (List.mem_reverse.mp ha)
    obtain ⟨i1, i2⟩ := ih hH nofun
    constructor
    · exact List.forall_mem_append.mpr ⟨r1, List.forall_mem_cons.mpr ⟨hs, i1⟩⟩
    · rw [toHops_append, r2, toHops, if_neg hnorm, i2]; rfl

theorem toHops_ok : ∀ (ss : List SegB), (∀ s ∈ ss, SegOk s) → ∀ h ∈ toHops ss, HopOk h := by
  intro ss
  fun_induction toHops ss with
  | case1 => exact fun _ => nofun
  | case2 t asns r _ ih =>
    intro hs h hh
    obtain ⟨h0, hr⟩ := List.forall_mem_cons.mp hs
    rcases List.mem_append.mp hh with hh | hh
    · obtain ⟨a, ha, rfl⟩ := List.mem_map.mp hh
      exact h0.2.2.2 a ha
    · exact ih hr h hh
  | case3 t asns r hn ih =>
    intro hs
    obtain ⟨h0, hr⟩ := List.forall_mem_cons.mp hs
    exact List.forall_mem_cons.mpr ⟨⟨h0, hn⟩, ih hr⟩

theorem length_le_encSegsB (ss : List SegB) : ss.length ≤ (encSegsB ss).length := by
  induction ss with
  | nil => exact Nat.le_refl 0
  | cons s t ih =>
    simp only [encSegsB, List.flatMap_cons, List.length_append, List.length_cons, encSegB] at ih ⊢
    omega

theorem parseSegs_composeHops (ss : List SegB) (hs : ∀ s ∈ ss, SegOk s) :
    parseSegs (composeHops (toHops ss) []).length (composeHops (toHops ss) []) = some (segsOf (toHops ss) [])
      ∧ toHops (segsOf (toHops ss) []) = toHops ss := by
  obtain ⟨s1, s2⟩ := segsOf_spec (toHops ss) [] (toHops_ok ss hs) nofun
  rw [composeHops_eq]
  exact ⟨parseSegs_enc _ s1 _ (length_le_encSegsB _), s2⟩

/-- **the normal form is a fixed point**: for segments as `parseSegs` / `parseSegs2` return
them, what `compose_value` writes parses four octets wide and composes to itself -/
theorem normal_form_fixed (ss : List SegB) (hs : ∀ s ∈ ss, SegOk s) :
    normAsPath (composeHops (toHops ss) []) = some (composeHops (toHops ss) []) := by
  obtain ⟨hp, hh⟩ := parseSegs_composeHops ss hs
  unfold normAsPath
  rw [hp]
  show some (composeHops (toHops (segsOf (toHops ss) [])) []) = _
  rw [hh]

theorem takeAsns_ok : ∀ (n : Nat) (bs : Bytes) (l : List Bytes) (r : Bytes), takeAsns n bs = some (l, r) →
    l.length = n ∧ ∀ a ∈ l, a.length = 4 := by
  intro n bs
  fun_induction takeAsns n bs with
  | case1 => intro l r h; cases h; exact ⟨rfl, nofun⟩
  | case2 n a b c d t l' r' hr ih =>
    intro l r h
    cases h
    obtain ⟨i1, i2⟩ := ih l' r' hr
    exact ⟨congrArg (· + 1) i1, List.forall_mem_cons.mpr ⟨rfl, i2⟩⟩
  | case3 | case4 => exact fun _ _ h => by cases h

theorem takeAsns2_ok : ∀ (n : Nat) (bs : Bytes) (l : List Bytes) (r : Bytes), takeAsns2 n bs = some (l, r) →
    l.length = n ∧ ∀ a ∈ l, a.length = 4 := by
  intro n bs
  fun_induction takeAsns2 n bs with
  | case1 => intro l r h; cases h; exact ⟨rfl, nofun⟩
  | case2 n a b t l' r' hr ih =>
    intro l r h
    cases h
    obtain ⟨i1, i2⟩ := ih l' r' hr
    exact ⟨congrArg (· + 1) i1, List.forall_mem_cons.mpr ⟨rfl, i2⟩⟩
  | case3 | case4 => exact fun _ _ h => by cases h

theorem seg_ok {t n : UInt8} {asns : List Bytes} (ht : 1 ≤ t.toNat ∧ t.toNat ≤ 4)
    (ha : asns.length = n.toNat ∧ ∀ a ∈ asns, a.length = 4) : SegOk (t, asns) :=
  ⟨ht.1, ht.2, ha.1 ▸ Nat.le_of_lt_succ n.toNat_lt, ha.2⟩

theorem parseSegs_ok : ∀ (fuel : Nat) (bs : Bytes) (ss : List SegB), parseSegs fuel bs = some ss → ∀ s ∈ ss, SegOk s := by
  intro fuel bs
  fun_induction parseSegs fuel bs with
  | case1 => intro ss h; cases h; nofun
  | case3 fuel t n r ht asns r' ha segs hs ih =>
    intro ss h
    cases h
    exact List.forall_mem_cons.mpr ⟨seg_ok ht (takeAsns_ok _ _ _ _ ha), ih segs hs⟩
  | case2 | case4 | case5 | case6 | case7 => exact fun _ h => by cases h

theorem parseSegs2_ok : ∀ (fuel : Nat) (bs : Bytes) (ss : List SegB), parseSegs2 fuel bs = some ss → ∀ s ∈ ss, SegOk s := by
  intro fuel bs
  fun_induction parseSegs2 fuel bs with
  | case1 => intro ss h; cases h; nofun
  | case3 fuel t n r ht asns r' ha segs hs ih =>
    intro ss h
    cases h
    exact List.forall_mem_cons.mpr ⟨seg_ok ht (takeAsns2_ok _ _ _ _ ha), ih segs hs⟩
  | case2 | case4 | case5 | case6 | case7 => exact fun _ h => by cases h

end Rc.PaMap
