/-
Property C01 on the level of RAW attribute values: what the decoder model
does on the output of the raw reference encoder `encUpdate`
(Rc/Model/UpdateEnc.lean).  These are the parts of `Rc.Thm.C01.decode_encode`;
Rc/Thm/C01.lean restates each of them as a property theorem.
-/
import Rc.Lemmas.UpdateEnc

namespace Rc.Upd
open Rc Rc.Nlri Rc.Attr

/-- well-formed content: NLRI are values of their Rust types that `compose`
accepts (in particular zero host bits – routecore, via `inetnum`, is stricter
than RFC 4271 here), path ids are `u32`s, every attribute length fits its
length field, MP attributes have their fixed octets -/
def WfUpdate (cfg : Cfg) (c : Content) : Prop :=
  NlrisWf .v4u (cfg.rx (1, 1)) c.wd ∧ NlrisWf .v4u (cfg.rx (1, 1)) c.ann ∧
    (∀ a ∈ c.attrs, a.wf = true) ∧ MpOk c.attrs

/-- what `path_attributes()` has to yield for an attribute: flags, type code,
length and the typed / invalid / unimplemented kind its value has under the
implementation's length rules for the session's ASN width -/
def reportAttr (four : Bool) (a : RawAttr) : Outcome Wire := .ok (classify four a.fl a.tc a.v)

/-- RFC 4760 / 4364 / 4659 / 5549 / 8955: the next hop an MP_REACH_NLRI of
family `f` carries in a next-hop field `nh`; `none` = not a legal length -/
def nhSpec (f : Fam) (nh : Bytes) : Option NextHop :=
  match f with
  | .v4u | .v4m | .v4rt | .vpls | .evpn => if nh.length = 4 then some (.unicast nh) else none
  | .v6u =>
    if nh.length = 16 then some (.unicast nh)
    else if nh.length = 32 then some (.ll (nh.take 16) (nh.drop 16)) else none
  | .v6m => if nh.length = 16 then some (.unicast nh) else none
  | .v4mpls | .v6mpls => if nh.length = 4 ∨ nh.length = 16 then some (.unicast nh) else none
  | .v4vpn => if nh.length = 12 then some (.vpn (nh.take 8) (nh.drop 8)) else none
  | .v6vpn => if nh.length = 24 then some (.vpn (nh.take 8) (nh.drop 8)) else none
  | .v4fs | .v6fs => some .empty

end Rc.Upd

namespace Rc.Upd.Raw
open Rc Rc.Nlri Rc.Attr Rc.Upd

theorem takeN_two (a r : Bytes) (j k : Nat) (h : a.length = k + j) :
    takeN j (a ++ r) = some (a.take j, a.drop j ++ r) ∧ takeN k (a.drop j ++ r) = some (a.drop j, r) := by
  refine ⟨?_, takeN_append_of_length (by rw [List.length_drop]; omega) _⟩
  unfold takeN
  rw [if_pos (by rw [List.length_append]; omega), List.take_append_of_le_length (by omega),
    List.drop_append_of_le_length (by omega)]

theorem header_frame (n : Nat) (hn : n < 65536) (rest : Bytes) :
    headerParse (marker ++ (be16 n ++ (2 :: rest))) = .ok (n, 2, rest) := by
  have ht : takeN 16 (marker ++ (be16 n ++ (2 :: rest))) = some (marker, be16 n ++ (2 :: rest)) :=
    takeN_append marker _
  have hm : marker.any (fun b => b != 0xff) = false := by decide
  simp only [headerParse, ht, hm, Bool.false_eq_true, ↓reduceIte, rd16_be16 n hn]

/-- **sections_decoded.** Whatever the three sections hold, as long as each is
acceptable on its own (the conventional NLRI validate under the session's IPv4
unicast ADD-PATH setting, the attributes are a sequence of complete TLVs with
well-formed MP attributes) and the PDU length fits its field, the framed
message is accepted – also with trailing octets after the announced length –
and the decoder's section ranges are exactly the three sections, the per-PDU
parse info is the session's. -/
theorem sections_decoded (cfg : Cfg) (wd attrs ann trail : Bytes) (reach unreach : Option (Nat × Nat))
    (hlen : 19 + 2 + wd.length + 2 + attrs.length + ann.length < 65536)
    (hwd : convValidate (cfg.rx (1, 1)) wd = .ok ())
    (hann : convValidate (cfg.rx (1, 1)) ann = .ok ())
    (hwalk : attrsWalk attrs.length attrs = .ok ())
    (hscan : mpScan attrs.length attrs none none = .ok (reach, unreach)) :
    parseUpdate cfg (frame wd attrs ann ++ trail) =
      .ok { body := be16 wd.length ++ (wd ++ (be16 attrs.length ++ (attrs ++ ann))),
            wd := wd, attrs := attrs, ann := ann, ppi := Ppi.ofCfg cfg reach unreach } := by
  unfold frame
  generalize hN : 19 + 2 + wd.length + 2 + attrs.length + ann.length = N at hlen ⊢
  -- `octets` of the message: what the length field spans after the header
  have hbody : List.take (N - 19) (be16 wd.length ++ (wd ++ (be16 attrs.length ++ (attrs ++ (ann ++ trail))))) =
      be16 wd.length ++ (wd ++ (be16 attrs.length ++ (attrs ++ ann))) := by
    have hl : (be16 wd.length ++ (wd ++ (be16 attrs.length ++ (attrs ++ ann)))).length = N - 19 := by
      simp only [List.length_append, be16_length]; omega
    rw [← hl, show be16 wd.length ++ (wd ++ (be16 attrs.length ++ (attrs ++ (ann ++ trail)))) =
      be16 wd.length ++ (wd ++ (be16 attrs.length ++ (attrs ++ ann))) ++ trail by simp only [List.append_assoc],
      List.take_left]
  have e5 : N - 19 - (2 + wd.length + 2 + attrs.length) = ann.length := by omega
  simp only [List.append_assoc, List.cons_append, parseUpdate, header_frame N hlen, show ¬ N < 19 by omega,
    ↓reduceIte, rd16_be16 _ (show wd.length < 65536 by omega), takeN_append, hwd,
    rd16_be16 _ (show attrs.length < 65536 by omega), hwalk, hscan,
    show ¬ N - 19 < 2 + wd.length + 2 + attrs.length by omega, e5, hann, hbody]
  rfl

theorem frame_length (w at' a : Bytes) :
    (frame w at' a).length = 19 + 2 + w.length + 2 + at'.length + a.length := by
  simp only [frame, marker, List.length_append, List.length_cons, List.length_replicate, be16_length]; omega

/-- **decode_encode_partial.** For every session configuration (ASN width, any
ADD-PATH map) and every well-formed content whose encoding fits the length
field (65535; the 4096 limit of RFC 4271 is not needed), also when octets
follow the announced length: the message is accepted, and the three lengths,
the conventional withdrawals and announcements with or without path ids, the
attribute sequence (flags, type codes, lengths, typed / invalid / unimplemented
kind and value octets), the ASN width and the per-section ADD-PATH flags the
accessors will use are exactly the content that was encoded.
*Partial*: the typed getters and the MP sections are the separate theorems
below; `Rc.Thm.C01.decode_encode` is the statement for every accessor at once. -/
theorem decode_encode_partial (cfg : Cfg) (c : Content) (hw : WfUpdate cfg c) :
    ∃ bs, encUpdate cfg c = .ok bs ∧ (bs.length < 65536 → ∀ trail, ∃ m,
      parseUpdate cfg (bs ++ trail) = .ok m ∧
      m.length = bs.length ∧
      (∃ w a, encNlris .v4u (cfg.rx (1, 1)) c.wd = .ok w ∧ encNlris .v4u (cfg.rx (1, 1)) c.ann = .ok a ∧
        m.wd = w ∧ m.ann = a ∧ m.wdLen = w.length) ∧
      m.attrLen = (encRaws c.attrs).length ∧
      m.convWd = (reportNlris .v4u (cfg.rx (1, 1)) c.wd, true) ∧
      m.convAnn = (reportNlris .v4u (cfg.rx (1, 1)) c.ann, true) ∧
      m.pathAttributes = (c.attrs.map (reportAttr cfg.four), true) ∧
      m.attrs = encRaws c.attrs ∧
      m.ppi = Ppi.ofCfg cfg (lastMp 14 c.attrs none) (lastMp 15 c.attrs none)) := by
  obtain ⟨hwd, hann, hattr, hmp⟩ := hw
  obtain ⟨w, hw1, hw2, hw3⟩ := nlris_reported .v4u (cfg.rx (1, 1)) c.wd hwd
  obtain ⟨a, ha1, ha2, ha3⟩ := nlris_reported .v4u (cfg.rx (1, 1)) c.ann hann
  refine ⟨frame w (encRaws c.attrs) a, by simp [encUpdate, hw1, ha1], ?_⟩
  intro hlen trail
  rw [frame_length] at hlen
  have hfuel := encRaws_length_ge c.attrs
  have hwalk := attrsWalk_enc c.attrs hattr (encRaws c.attrs).length hfuel
  have hscan := mpScan_enc c.attrs hattr hmp (encRaws c.attrs).length none none hfuel
  have hp := sections_decoded cfg w (encRaws c.attrs) a trail _ _ hlen hw3 ha3 hwalk hscan
  refine ⟨_, hp, ?_, ⟨w, a, hw1, ha1, rfl, rfl, rfl⟩, rfl, ?_, ?_, ?_, rfl, rfl⟩
  · simp only [Msg.length, frame_length]
  · simp only [Msg.convWd, Ppi.ofCfg, hw2]
  · simp only [Msg.convAnn, Ppi.ofCfg, ha2]
  · simp only [Msg.pathAttributes, Ppi.ofCfg]
    exact pa_collect_enc cfg.four c.attrs hattr _ (by omega)

theorem getAttr_report (four : Bool) (code : Nat) : ∀ (l : List RawAttr),
    getAttr (l.map (reportAttr four)) code =
      (firstWith code l).map (fun a => classify four a.fl a.tc a.v) := by
  intro l
  induction l with
  | nil => rfl
  | cons a t ih =>
    have hc : (classify four a.fl a.tc a.v).code = a.tc.toNat := by
      unfold classify; split <;> rfl
    simp only [List.map_cons, reportAttr, getAttr, hc, firstWith]
    split
    · rfl
    · exact ih

/-- **typed_value_reported.** The value octets a typed getter works on are the
value octets of the first attribute of its type in the encoded sequence,
provided that value obeys the type's length rule for the session's ASN width
(otherwise the attribute is surfaced as invalid and the getter answers `None`). -/
theorem typed_value_reported (m : Msg) (l : List RawAttr)
    (hpa : m.pathAttributes.1 = l.map (reportAttr m.ppi.four)) (code : Nat) (a : RawAttr)
    (hfirst : firstWith code l = some a) (hcode : a.tc.toNat = code) :
    m.typedValue code = (if validate code m.ppi.four a.v = some true then some a.v else none) := by
  simp only [Msg.typedValue, Msg.get, hpa, getAttr_report, hfirst, Option.map_some, classify, hcode]
  cases hv : validate code m.ppi.four a.v with
  | none => simp
  | some b => cases b <;> simp

theorem typed_value_valid (m : Msg) (l : List RawAttr)
    (hpa : m.pathAttributes.1 = l.map (reportAttr m.ppi.four)) (code : Nat) (a : RawAttr)
    (hfirst : firstWith code l = some a) (hcode : a.tc.toNat = code)
    (hv : validate code m.ppi.four a.v = some true) : m.typedValue code = some a.v := by
  rw [typed_value_reported m l hpa code a hfirst hcode, if_pos hv]

/-- **getters_reported.** ORIGIN, MULTI_EXIT_DISC, LOCAL_PREF, NEXT_HOP,
ATOMIC_AGGREGATE and the four community flavours: the getter returns the encoded
value (as number / address octets / the sequence of fixed-size records). -/
theorem getters_reported (m : Msg) (l : List RawAttr)
    (hpa : m.pathAttributes.1 = l.map (reportAttr m.ppi.four)) :
    (∀ a b, firstWith 1 l = some a → a.tc.toNat = 1 → a.v = [b] → m.origin = .ok (some b.toNat)) ∧
    (∀ a n, firstWith 4 l = some a → a.tc.toNat = 4 → n < 4294967296 → a.v = be32 n → m.med = .ok (some n)) ∧
    (∀ a n, firstWith 5 l = some a → a.tc.toNat = 5 → n < 4294967296 → a.v = be32 n →
      m.localPref = .ok (some n)) ∧
    (∀ a, firstWith 3 l = some a → a.tc.toNat = 3 → a.v.length = 4 → m.convNextHop = .ok (some (.unicast a.v))) ∧
    (m.isAtomicAggregate = (firstWith 6 l).isSome) ∧
    (∀ code k a, (code, k) ∈ [(8, 4), (16, 8), (25, 20), (32, 12)] → firstWith code l = some a →
      a.tc.toNat = code → a.v.length % k = 0 → m.comms code k = some (commItems k a.v)) := by
  refine ⟨?_, ?_, ?_, ?_, ?_, ?_⟩
  · intro a b hf hc hv
    rw [Msg.origin, typed_value_valid m l hpa 1 a hf hc (by rw [hv]; rfl), hv]
    rfl
  · intro a n hf hc hn hv
    rw [Msg.med, typed_value_valid m l hpa 4 a hf hc (by rw [hv]; rfl), hv]
    simp only [u32Value, Attr.rd32_be32' n hn, mapO]
  · intro a n hf hc hn hv
    rw [Msg.localPref, typed_value_valid m l hpa 5 a hf hc (by rw [hv]; rfl), hv]
    simp only [u32Value, Attr.rd32_be32' n hn, mapO]
  · intro a hf hc hl
    rw [Msg.convNextHop, typed_value_valid m l hpa 3 a hf hc (congrArg (fun x => some (x == 4)) hl)]
    have ht := takeN_append_of_length hl []
    rw [List.append_nil] at ht
    simp only [ht]
  · simp only [Msg.isAtomicAggregate, Msg.get, hpa, getAttr_report]
    cases firstWith 6 l <;> rfl
  · intro code k a hmem hf hc hmod
    rw [Msg.comms, typed_value_valid m l hpa code a hf hc]
    simp only [List.mem_cons, Prod.mk.injEq, List.not_mem_nil, or_false] at hmem
    rcases hmem with ⟨rfl, rfl⟩ | ⟨rfl, rfl⟩ | ⟨rfl, rfl⟩ | ⟨rfl, rfl⟩ <;>
      exact congrArg (fun x => some (x == 0)) hmod

/-- the community iterators cut the value into its records: for a value that
is the concatenation of `k`-octet records they yield exactly those records -/
theorem comm_records (k : Nat) (hk : 0 < k) : ∀ (recs : List Bytes), (∀ r ∈ recs, r.length = k) →
    ∀ f, recs.length ≤ f → collect (commNext k) f recs.flatten = (recs.map Outcome.ok, true) := by
  intro recs
  induction recs with
  | nil => intro _ f _; cases f <;> simp [collect, commNext]
  | cons r t ih =>
    intro hl f hf
    match f, hf with
    | g + 1, hf =>
      have hr := hl r (by simp)
      have hne : r ++ t.flatten ≠ [] := by
        intro h; simp at h; rw [h.1] at hr; simp at hr; omega
      have ht := takeN_append_of_length hr t.flatten
      have hn : commNext k (r ++ t.flatten) = some (.ok r, t.flatten) := by
        unfold commNext
        split
        · rename_i h; exact absurd h hne
        · rw [ht]
      have := ih (fun x hx => hl x (by simp [hx])) g (by simp at hf; omega)
      simp only [List.flatten_cons, collect, hn, this, List.map_cons]

theorem nlriTy_famCode (f : Fam) (ap : Bool) : nlriTy (famCode f) ap = .known f ap := by
  simp [nlriTy, famOf_famCode]

theorem mp_wf (code : UInt8) (v : Bytes) (hv : v.length < 65536) :
    (RawAttr.mk (if v.length > 255 then 0x90 else 0x80) code v).wf = true := by
  unfold RawAttr.wf
  by_cases h : v.length > 255
  · have e : extBit (0x90 : UInt8) = true := by decide
    simp [h, e, hv]
  · have e : extBit (0x80 : UInt8) = false := by decide
    simp [h, e]; omega

theorem mpAttr_absent (m : Msg) (l : List RawAttr) (hm : m.attrs = encRaws l) (hwf : ∀ a ∈ l, a.wf = true)
    (code : Nat) (hf : firstWith code l = none) : m.mpAttr code = .ok none := by
  simp only [Msg.mpAttr, hm, findUnchecked_enc code l hwf _ (encRaws_length_ge l), hf, Option.map_none]

theorem hasMpNlri_enc (m : Msg) (l : List RawAttr) (hm : m.attrs = encRaws l) (hwf : ∀ a ∈ l, a.wf = true) :
    m.hasMpNlri = .ok (firstWith 14 l).isSome := by
  simp only [Msg.hasMpNlri, hm, findUnchecked_enc 14 l hwf _ (encRaws_length_ge l)]
  cases firstWith 14 l <;> rfl

theorem mpAttr_enc (m : Msg) (l : List RawAttr) (hm : m.attrs = encRaws l) (hwf : ∀ a ∈ l, a.wf = true)
    (code : Nat) (a : RawAttr) (hf : firstWith code l = some a) (x : (Nat × Nat) × Bytes)
    (hx : afiSafi a.v = some x) : m.mpAttr code = .ok (some x) := by
  obtain ⟨_, _, hv⟩ := epa_encRaw a (hwf a (firstWith_mem hf))
  simp only [Msg.mpAttr, hm, findUnchecked_enc code l hwf _ (encRaws_length_ge l), hf, Option.map_some, hv, hx]

/-- **mp_reach_reported.** If the first MP_REACH_NLRI attribute of the message
was built for family `f` with next hop field `nh` and the NLRI list `nlri`
(encoded with path ids exactly when the message's MP_REACH ADD-PATH flag is
set), then `mp_announcements()` is an iterator of that family's type over
exactly the NLRI octets and yields exactly `nlri`, every item `Ok`; the same
holds for `typed_announcements` of that type when there is no conventional NLRI
or the family is not IPv4 unicast. All 13 families. -/
theorem mp_reach_reported (m : Msg) (l : List RawAttr) (hm : m.attrs = encRaws l)
    (hwf : ∀ a ∈ l, a.wf = true) (a : RawAttr) (hfirst : firstWith 14 l = some a)
    (f : Fam) (nh : Bytes) (hnh : nh.length < 256) (nlri : List (Nat × f.Val))
    (hw : NlrisWf f m.ppi.mpReach nlri) :
    ∃ b, encNlris f m.ppi.mpReach nlri = .ok b ∧ (a.v = reachValue f nh b →
      m.mpAnn = .ok (some (.known f m.ppi.mpReach, b)) ∧
      enumItems (.known f m.ppi.mpReach) b = (reportNlris f m.ppi.mpReach nlri, true) ∧
      ((f ≠ .v4u ∨ m.ann = []) →
        m.typedAnn f m.ppi.mpReach = .ok (some (reportNlris f m.ppi.mpReach nlri, true)))) := by
  obtain ⟨b, hb1, hb2, _⟩ := nlris_reported f m.ppi.mpReach nlri hw
  refine ⟨b, hb1, ?_⟩
  intro hv
  have hx := afiSafi_reach f nh b
  rw [← hv] at hx
  have hattr := mpAttr_enc m l hm hwf 14 a hfirst _ hx
  refine ⟨?_, hb2, ?_⟩
  · simp only [Msg.mpAnn, hattr, skipNextHop_mp nh 0 b hnh, nlriTy_famCode]
  · intro hc
    have hcond : ¬ (f = .v4u ∧ m.ann ≠ []) := fun ⟨h1, h2⟩ => hc.elim (· h1) h2
    simp only [Msg.typedAnn, hcond, ↓reduceIte, hattr, famOf_famCode, skipNextHop_mp nh 0 b hnh, hb2]

/-- **mp_unreach_reported.** The same for MP_UNREACH_NLRI / `mp_withdrawals()` /
`typed_withdrawals`. -/
theorem mp_unreach_reported (m : Msg) (l : List RawAttr) (hm : m.attrs = encRaws l)
    (hwf : ∀ a ∈ l, a.wf = true) (a : RawAttr) (hfirst : firstWith 15 l = some a)
    (f : Fam) (nlri : List (Nat × f.Val)) (hw : NlrisWf f m.ppi.mpUnreach nlri) :
    ∃ b, encNlris f m.ppi.mpUnreach nlri = .ok b ∧ (a.v = unreachValue f b →
      m.mpWd = .ok (some (.known f m.ppi.mpUnreach, b)) ∧
      enumItems (.known f m.ppi.mpUnreach) b = (reportNlris f m.ppi.mpUnreach nlri, true) ∧
      ((f ≠ .v4u ∨ m.wd = []) →
        m.typedWd f m.ppi.mpUnreach = .ok (some (reportNlris f m.ppi.mpUnreach nlri, true)))) := by
  obtain ⟨b, hb1, hb2, _⟩ := nlris_reported f m.ppi.mpUnreach nlri hw
  refine ⟨b, hb1, ?_⟩
  intro hv
  have hx := afiSafi_unreach f b
  rw [← hv] at hx
  have hattr := mpAttr_enc m l hm hwf 15 a hfirst _ hx
  refine ⟨?_, hb2, ?_⟩
  · simp only [Msg.mpWd, hattr, nlriTy_famCode]
  · intro hc
    have hcond : ¬ (f = .v4u ∧ m.wd ≠ []) := fun ⟨h1, h2⟩ => hc.elim (· h1) h2
    simp only [Msg.typedWd, hcond, ↓reduceIte, hattr, famOf_famCode, hb2]

/-- the ADD-PATH flag of an MP section is the session's setting for the family
of the (only) attribute of that type: with `decode_encode_partial` this closes
the loop between the encoder's and the decoder's use of path ids -/
theorem mp_flag_of_unique (code : Nat) (l : List RawAttr) (a : RawAttr)
    (huniq : ∀ x ∈ l, x.tc.toNat = code → x = a) (hfirst : firstWith code l = some a) :
    lastMp code l none = (afiSafi a.v).map (·.1) := by
  -- every attribute of the type sets the same value: once one has been seen, the accumulator stays there
  have key : ∀ (l : List RawAttr) (acc : Option (Nat × Nat)), (∀ x ∈ l, x.tc.toNat = code → x = a) →
      lastMp code l acc = if (firstWith code l).isSome then (afiSafi a.v).map (·.1) else acc := by
    intro l
    induction l with
    | nil => intro acc _; rfl
    | cons b t ih =>
      intro acc hu
      rw [lastMp, firstWith, ih _ fun x hx => hu x (List.mem_cons_of_mem b hx)]
      by_cases hb : b.tc.toNat = code
      · rw [if_pos hb, if_pos hb, hu b List.mem_cons_self hb, Option.isSome_some, if_pos rfl, ite_self]
      · rw [if_neg hb, if_neg hb]
  rw [key l none huniq, hfirst]
  rfl

/-- **next_hop_reported.** For every family and every legal next-hop length the
next hop `mp_next_hop()` parses out of an encoded MP_REACH_NLRI value is the
content of the next-hop field (addresses, route distinguisher). -/
theorem next_hop_reported (f : Fam) (nh rest : Bytes) (x : NextHop) (hn : nh.length < 256)
    (hs : nhSpec f nh = some x) : nhParse (some f) (UInt8.ofNat nh.length :: (nh ++ rest)) = .ok x := by
  have hl := UInt8.toNat_ofNat_of_lt' hn
  -- unfolded once, before the 13 families: the `match`es then reduce per family
  unfold nhSpec at hs
  unfold nhParse
  cases f <;> simp only [hl] at hs ⊢
  case v4fs => cases hs; rfl
  case v6fs => cases hs; rfl
  case v6u =>
    split at hs
    · rename_i h; cases hs; simp only [h, ↓reduceIte, takeN_append_of_length h rest]
    · split at hs
      · rename_i h1 h2
        cases hs
        obtain ⟨e1, e2⟩ := takeN_two nh rest 16 16 h2
        simp only [h2, ↓reduceIte, e1, e2, Nat.reduceEqDiff]
      · cases hs
  case v4vpn | v6vpn =>
    split at hs
    · rename_i h
      cases hs
      obtain ⟨e1, e2⟩ := takeN_two nh rest 8 _ h
      simp only [h, ↓reduceIte, e1, e2]
    · cases hs
  case v4mpls | v6mpls =>
    split at hs
    · rename_i h
      cases hs
      rcases h with h | h <;> simp only [h, ↓reduceIte, takeN_append_of_length h rest, Nat.reduceEqDiff]
    · cases hs
  all_goals
    split at hs
    · rename_i h
      cases hs
      simp only [h, ↓reduceIte, takeN_append_of_length h rest]
    · cases hs

theorem length_23 (m : Msg) : m.length = 23 ↔ m.wd = [] ∧ m.attrs = [] ∧ m.ann = [] := by
  rw [Msg.length, ← List.length_eq_zero_iff, ← List.length_eq_zero_iff, ← List.length_eq_zero_iff]
  omega

/-- **eor_iff.** `is_eor()` answers `Some(family)` in exactly two situations:
the 23-octet UPDATE (IPv4 unicast), or a message without conventional sections
and without an MP_REACH_NLRI attribute whose (first) MP_UNREACH_NLRI – of the
family the answer names, supported or not – holds no octet after AFI/SAFI. -/
theorem eor_iff (m : Msg) (k : Nat × Nat) :
    m.isEor = .ok (some k) ↔
      (m.length = 23 ∧ k = (1, 1)) ∨
      (m.length ≠ 23 ∧ m.wd = [] ∧ m.ann = [] ∧ m.hasMpNlri = .ok false ∧
        ∃ ty, m.mpWd = .ok (some (ty, [])) ∧ k = ty.afiSafi) := by
  unfold Msg.isEor
  by_cases h23 : m.length = 23
  · simp only [h23, ↓reduceIte, Outcome.ok.injEq, Option.some.injEq, true_and, ne_eq, not_true_eq_false,
      false_and, or_false]
    exact eq_comm
  · simp only [h23, ↓reduceIte, false_and, ne_eq, not_false_eq_true, true_and, false_or]
    constructor
    · intro h
      split at h
      · rename_i ty bs hm
        split at h
        · rename_i hc
          simp only [Bool.and_eq_true, List.isEmpty_iff] at hc
          obtain ⟨⟨rfl, hw⟩, ha⟩ := hc
          split at h <;> cases h
          exact ⟨hw, ha, ‹_›, ty, hm, rfl⟩
        · cases h
      · cases h
      · cases h
    · rintro ⟨hw, ha, hh, ty, hm, rfl⟩
      rw [hm, hw, ha, hh]
      rfl

/-- **eor_no_nlri.** A message that carries NLRI – a non-empty conventional
section, an MP_REACH_NLRI attribute, or an MP_UNREACH_NLRI with at least one
octet of withdrawn routes after AFI/SAFI, of ANY address family (also one
routecore has no NLRI type for) – is never reported as End-of-RIB. For every
message, whatever its bytes. -/
theorem eor_no_nlri (m : Msg) (k : Nat × Nat)
    (h : m.wd ≠ [] ∨ m.ann ≠ [] ∨ m.hasMpNlri = .ok true ∨
      ∃ ty bs, m.mpWd = .ok (some (ty, bs)) ∧ bs ≠ []) :
    m.isEor ≠ .ok (some k) := by
  intro he
  rcases (eor_iff m k).mp he with ⟨h23, _⟩ | ⟨_, hw, ha, hh, ty, hm, _⟩
  · obtain ⟨hwd, hat, han⟩ := (length_23 m).mp h23
    rcases h with h | h | h | ⟨ty, bs, h, _⟩
    · exact h hwd
    · exact h han
    · rw [hasMpNlri_enc m [] hat (by simp)] at h; cases h
    · rw [Msg.mpWd, mpAttr_absent m [] hat (by simp) 15 rfl] at h; cases h
  · rcases h with h | h | h | ⟨ty', bs', h, hne⟩
    · exact h hw
    · exact h ha
    · rw [hh] at h; cases h
    · cases hm.symm.trans h
      exact hne rfl

/-- the same with "carries NLRI" read off the iterator: an MP_UNREACH_NLRI whose
iterator yields an item (only a supported family's does) holds octets -/
theorem eor_no_nlri_items (m : Msg) (k : Nat × Nat) (ty : NlriTy) (bs : Bytes)
    (hm : m.mpWd = .ok (some (ty, bs))) (hi : (enumItems ty bs).1 ≠ []) : m.isEor ≠ .ok (some k) := by
  refine eor_no_nlri m k (.inr (.inr (.inr ⟨ty, bs, hm, ?_⟩)))
  rintro rfl
  have := (enumItems_spec ty []).2.1
  exact hi (List.eq_nil_of_length_eq_zero (by simpa using this))

theorem isEor_marker (m : Msg) (f : Fam) (fl : UInt8) (hwf : (⟨fl, 15, unreachValue f []⟩ : RawAttr).wf = true)
    (hwd : m.wd = []) (hann : m.ann = []) (hattrs : m.attrs = encRaws [⟨fl, 15, unreachValue f []⟩]) :
    m.isEor = .ok (some (famCode f)) := by
  have hwfa : ∀ x ∈ [(⟨fl, 15, unreachValue f []⟩ : RawAttr)], x.wf = true := by simpa using hwf
  refine (eor_iff m (famCode f)).mpr (.inr ⟨?_, hwd, hann, ?_, .known f m.ppi.mpUnreach, ?_, rfl⟩)
  · have := encRaw_length_ge ⟨fl, 15, unreachValue f []⟩
    rw [Msg.length, hattrs, encRaws_cons, List.length_append]
    omega
  · exact hasMpNlri_enc m _ hattrs hwfa
  · simp only [Msg.mpWd, mpAttr_enc m _ hattrs hwfa 15 _ rfl _ (afiSafi_unreach f []), nlriTy_famCode]

/-- **eor_marker_recognised.** The End-of-RIB marker of each of the 13 families
(an UPDATE holding nothing but an MP_UNREACH_NLRI with AFI/SAFI and no
withdrawn routes, RFC 4724) is reported as End-of-RIB of exactly that family,
under every session configuration (the empty UPDATE, IPv4 unicast's marker, is
the first case of `eor_iff`). -/
theorem eor_marker_recognised (cfg : Cfg) (f : Fam) (fl : UInt8) (trail : Bytes)
    (hwf : (⟨fl, 15, unreachValue f []⟩ : RawAttr).wf = true) :
    ∃ m, parseUpdate cfg (frame [] (encRaws [⟨fl, 15, unreachValue f []⟩]) [] ++ trail) = .ok m ∧
      m.isEor = .ok (some (famCode f)) := by
  let a : RawAttr := ⟨fl, 15, unreachValue f []⟩
  have hwfa : ∀ x ∈ [a], x.wf = true := by simpa using hwf
  have hmp : MpOk [a] := by
    intro x hx
    rw [List.mem_singleton.mp hx]
    exact ⟨fun h => (by cases h), fun _ => by rw [afiSafi_unreach]; rfl⟩
  have hconv : convValidate (cfg.rx (1, 1)) [] = .ok () := by cases cfg.rx (1, 1) <;> rfl
  have hsmall : (encRaws [a]).length < 65000 := by
    simp only [encRaws, List.map_cons, List.map_nil, List.flatten_cons, List.flatten_nil, List.append_nil, encRaw, a,
      unreachValue]
    split <;> simp
  exact ⟨_, sections_decoded cfg [] (encRaws [a]) [] trail _ _ (by simp only [List.length_nil]; omega)
    hconv hconv (attrsWalk_enc [a] hwfa _ (encRaws_length_ge _))
    (mpScan_enc [a] hwfa hmp _ none none (encRaws_length_ge _)), isEor_marker _ f fl hwf rfl rfl rfl⟩

end Rc.Upd.Raw
