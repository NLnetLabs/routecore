/-
Helper lemmas for C14: laws of a comparison function together with its `==`,
closure under lexicographic composition (`Ordering.then`), pull-back along an
injective projection, and the primitive orders (numbers, byte slices, prefixes).
-/
import Rc.Model.NlriOrd
import Rc.Lemmas.Nlri

namespace Rc.NlriOrd
open Rc Rc.Nlri

/-- `cmp` is a total order on the values satisfying `P`, and `eq` is equality there. -/
structure CmpLaws {α : Type} (P : α → Prop) (eq : α → α → Bool) (cmp : α → α → Ordering) : Prop where
  refl : ∀ a, P a → cmp a a = .eq
  eq_of_cmp : ∀ a b, P a → P b → cmp a b = .eq → a = b
  beq_iff : ∀ a b, P a → P b → (eq a b = true ↔ a = b)
  swap : ∀ a b, P a → P b → cmp b a = (cmp a b).swap
  trans_lt : ∀ a b c, P a → P b → P c → cmp a b = .lt → cmp b c = .lt → cmp a c = .lt

theorem CmpLaws.lex {α β : Type} {P : α → Prop} {Q : β → Prop} {eqA cmpA eqB cmpB}
    (hA : CmpLaws P eqA cmpA) (hB : CmpLaws Q eqB cmpB) :
    CmpLaws (fun x : α × β => P x.1 ∧ Q x.2) (fun x y => eqA x.1 y.1 && eqB x.2 y.2)
      (fun x y => (cmpA x.1 y.1).then (cmpB x.2 y.2)) where
  refl := fun a h => Ordering.then_eq_eq.mpr ⟨hA.refl _ h.1, hB.refl _ h.2⟩
  eq_of_cmp := by
    intro a b ha hb h
    obtain ⟨h1, h2⟩ := Ordering.then_eq_eq.mp h
    exact Prod.ext (hA.eq_of_cmp _ _ ha.1 hb.1 h1) (hB.eq_of_cmp _ _ ha.2 hb.2 h2)
  beq_iff := by
    intro a b ha hb
    simp only [Bool.and_eq_true, hA.beq_iff _ _ ha.1 hb.1, hB.beq_iff _ _ ha.2 hb.2]
    exact ⟨fun h => Prod.ext h.1 h.2, fun h => by subst h; exact ⟨rfl, rfl⟩⟩
  swap := by
    intro a b ha hb
    simp only [Ordering.swap_then, hA.swap _ _ ha.1 hb.1, hB.swap _ _ ha.2 hb.2]
  trans_lt := by
    intro a b c ha hb hc h1 h2
    rcases Ordering.then_eq_lt.mp h1 with h1 | ⟨h1, h1'⟩ <;> rcases Ordering.then_eq_lt.mp h2 with h2 | ⟨h2, h2'⟩
    · exact Ordering.then_eq_lt.mpr (.inl (hA.trans_lt _ _ _ ha.1 hb.1 hc.1 h1 h2))
    · have := hA.eq_of_cmp _ _ hb.1 hc.1 h2
      exact Ordering.then_eq_lt.mpr (.inl (this ▸ h1))
    · have := hA.eq_of_cmp _ _ ha.1 hb.1 h1
      exact Ordering.then_eq_lt.mpr (.inl (this ▸ h2))
    · have e1 := hA.eq_of_cmp _ _ ha.1 hb.1 h1
      have e2 := hA.eq_of_cmp _ _ hb.1 hc.1 h2
      refine Ordering.then_eq_lt.mpr (.inr ⟨?_, hB.trans_lt _ _ _ ha.2 hb.2 hc.2 h1' h2'⟩)
      rw [e1, e2]; exact hA.refl _ hc.1

theorem CmpLaws.pull {α γ : Type} {P : α → Prop} {eq cmp} (hA : CmpLaws P eq cmp) (f : γ → α)
    (R : γ → Prop) (hR : ∀ c, R c → P (f c)) (hf : ∀ a b, R a → R b → f a = f b → a = b) :
    CmpLaws R (fun a b => eq (f a) (f b)) (fun a b => cmp (f a) (f b)) where
  refl := fun a h => hA.refl _ (hR a h)
  eq_of_cmp := fun a b ha hb h => hf a b ha hb (hA.eq_of_cmp _ _ (hR a ha) (hR b hb) h)
  beq_iff := by
    intro a b ha hb
    rw [hA.beq_iff _ _ (hR a ha) (hR b hb)]
    exact ⟨hf a b ha hb, fun h => h ▸ rfl⟩
  swap := fun a b ha hb => hA.swap _ _ (hR a ha) (hR b hb)
  trans_lt := fun a b c ha hb hc => hA.trans_lt _ _ _ (hR a ha) (hR b hb) (hR c hc)

/-- `eq` enters the laws through `beq_iff` alone: any other function deciding equality will do -/
theorem CmpLaws.withEq {α : Type} {P : α → Prop} {eq cmp eq'} (hA : CmpLaws P eq cmp)
    (h : ∀ a b, P a → P b → (eq' a b = true ↔ a = b)) : CmpLaws P eq' cmp :=
  { hA with beq_iff := h }

theorem CmpLaws.rev {α : Type} {P : α → Prop} {eq cmp} (hA : CmpLaws P eq cmp) :
    CmpLaws P eq (fun a b => cmp b a) where
  refl := hA.refl
  eq_of_cmp := fun a b ha hb h => (hA.eq_of_cmp b a hb ha h).symm
  beq_iff := hA.beq_iff
  swap := fun a b ha hb => hA.swap b a hb ha
  trans_lt := fun a b c ha hb hc h1 h2 => hA.trans_lt c b a hc hb ha h2 h1

theorem CmpLaws.cmp_eq_iff {α} {P : α → Prop} {eq cmp} (h : CmpLaws P eq cmp) (a b : α) (ha : P a) (hb : P b) :
    cmp a b = .eq ↔ eq a b = true :=
  ⟨fun e => (h.beq_iff a b ha hb).mpr (h.eq_of_cmp a b ha hb e),
   fun e => by have := (h.beq_iff a b ha hb).mp e; subst this; exact h.refl a ha⟩

theorem CmpLaws.trans_le {α} {P : α → Prop} {eq cmp} (h : CmpLaws P eq cmp) (a b c : α)
    (ha : P a) (hb : P b) (hc : P c) (h1 : cmp a b ≠ .gt) (h2 : cmp b c ≠ .gt) : cmp a c ≠ .gt := by
  cases e1 : cmp a b with
  | gt => exact absurd e1 h1
  | lt =>
    cases e2 : cmp b c with
    | gt => exact absurd e2 h2
    | lt => rw [h.trans_lt a b c ha hb hc e1 e2]; simp
    | eq => have := h.eq_of_cmp b c hb hc e2; subst this; rw [e1]; simp
  | eq =>
    have := h.eq_of_cmp a b ha hb e1; subst this
    exact h2

theorem CmpLaws.connex {α} {P : α → Prop} {eq cmp} (h : CmpLaws P eq cmp) (a b : α) (ha : P a) (hb : P b) :
    cmp a b ≠ .gt ∨ cmp b a ≠ .gt := by
  rw [h.swap a b ha hb]
  cases cmp a b <;> simp

theorem CmpLaws.antisymm {α} {P : α → Prop} {eq cmp} (h : CmpLaws P eq cmp) (a b : α) (ha : P a) (hb : P b)
    (h1 : cmp a b ≠ .gt) (h2 : cmp b a ≠ .gt) : cmp a b = .eq := by
  rw [h.swap a b ha hb] at h2
  cases e : cmp a b <;> simp_all

/-! ### primitive orders -/

theorem natLaws : CmpLaws (fun _ : Nat => True) (fun a b => a == b) (fun a b => compare a b) where
  refl := fun _ _ => Nat.compare_eq_eq.mpr rfl
  eq_of_cmp := fun _ _ _ _ => Nat.compare_eq_eq.mp
  beq_iff := fun _ _ _ _ => beq_iff_eq
  swap := fun a b _ _ => (Nat.compare_swap a b).symm
  trans_lt := fun _ _ _ _ _ _ h1 h2 =>
    Nat.compare_eq_lt.mpr (Nat.lt_trans (Nat.compare_eq_lt.mp h1) (Nat.compare_eq_lt.mp h2))

theorem cmpBytes_refl : ∀ a : Bytes, cmpBytes a a = .eq
  | [] => rfl
  | _ :: xs => Ordering.then_eq_eq.mpr ⟨Nat.compare_eq_eq.mpr rfl, cmpBytes_refl xs⟩

theorem cmpBytes_eq : ∀ a b : Bytes, cmpBytes a b = .eq → a = b
  | [], [], _ => rfl
  | [], _ :: _, h | _ :: _, [], h => by cases h
  | x :: xs, y :: ys, h => by
    obtain ⟨h1, h2⟩ := Ordering.then_eq_eq.mp h
    rw [UInt8.toNat_inj.mp (Nat.compare_eq_eq.mp h1), cmpBytes_eq xs ys h2]

theorem cmpBytes_swap : ∀ a b : Bytes, cmpBytes b a = (cmpBytes a b).swap
  | [], [] | [], _ :: _ | _ :: _, [] => rfl
  | x :: xs, y :: ys => by simp only [cmpBytes, Ordering.swap_then, cmpBytes_swap xs ys, Nat.compare_swap]

theorem cmpBytes_trans : ∀ a b c : Bytes, cmpBytes a b = .lt → cmpBytes b c = .lt → cmpBytes a c = .lt
  | [], _ :: _, _ :: _, _, _ => rfl
  | [], [], _, h, _ | _ :: _, [], _, h, _ | _, _ :: _, [], _, h => by cases h
  | x :: xs, y :: ys, z :: zs, h1, h2 => by
    simp only [cmpBytes, Ordering.then_eq_lt, Nat.compare_eq_lt, Nat.compare_eq_eq] at h1 h2 ⊢
    rcases h1 with h1 | ⟨h1, h1'⟩ <;> rcases h2 with h2 | ⟨h2, h2'⟩
    · exact .inl (by omega)
    · exact .inl (by omega)
    · exact .inl (by omega)
    · exact .inr ⟨by omega, cmpBytes_trans xs ys zs h1' h2'⟩

theorem bytesLaws : CmpLaws (fun _ : Bytes => True) (fun a b => a == b) cmpBytes where
  refl := fun a _ => cmpBytes_refl a
  eq_of_cmp := fun a b _ _ => cmpBytes_eq a b
  beq_iff := fun _ _ _ _ => beq_iff_eq
  swap := fun a b _ _ => cmpBytes_swap a b
  trans_lt := fun a b c _ _ _ => cmpBytes_trans a b c

/-! ### prefixes -/

theorem beVal_lt : ∀ bs : Bytes, Pfx.beVal bs < 256 ^ bs.length := by
  intro bs
  induction bs with
  | nil => simp [Pfx.beVal]
  | cons b bs ih =>
    have hb := b.toNat_lt
    have : b.toNat * 256 ^ bs.length + 256 ^ bs.length ≤ 256 * 256 ^ bs.length := by
      have := Nat.mul_le_mul_right (256 ^ bs.length) (show b.toNat + 1 ≤ 256 by omega)
      rw [Nat.add_mul, Nat.one_mul] at this; exact this
    simp only [Pfx.beVal, List.length_cons, Nat.pow_succ]
    omega

theorem beVal_inj : ∀ a b : Bytes, a.length = b.length → Pfx.beVal a = Pfx.beVal b → a = b := by
  intro a
  induction a with
  | nil => intro b hl _; cases b <;> simp_all
  | cons x xs ih =>
    intro b hl h
    cases b with
    | nil => simp at hl
    | cons y ys =>
      simp only [List.length_cons, Nat.add_right_cancel_iff] at hl
      simp only [Pfx.beVal, hl] at h
      have h1 := beVal_lt xs
      have h2 := beVal_lt ys
      rw [hl] at h1
      have hxy : x.toNat = y.toNat := by
        rcases Nat.lt_trichotomy x.toNat y.toNat with hlt | heq | hgt
        · have := Nat.mul_le_mul_right (256 ^ ys.length) (show x.toNat + 1 ≤ y.toNat by omega)
          rw [Nat.add_mul, Nat.one_mul] at this; omega
        · exact heq
        · have := Nat.mul_le_mul_right (256 ^ ys.length) (show y.toNat + 1 ≤ x.toNat by omega)
          rw [Nat.add_mul, Nat.one_mul] at this; omega
      rw [hxy] at h
      have := ih ys hl (by omega)
      rw [UInt8.toNat_inj.mp hxy, this]

theorem pfxKey_inj (a b : Pfx) (ha : a.wf = true) (hb : b.wf = true)
    (h : ((a.v6.toNat, pfxMax a), a.len) = ((b.v6.toNat, pfxMax b), b.len)) : a = b := by
  simp only [Prod.mk.injEq] at h
  obtain ⟨⟨h1, h2⟩, h3⟩ := h
  obtain ⟨la, _, _⟩ := a.wf_iff.mp ha
  obtain ⟨lb, _, _⟩ := b.wf_iff.mp hb
  have hv : a.v6 = b.v6 := by
    revert h1
    cases a.v6 <;> cases b.v6 <;> decide
  have hl : a.addr.length = b.addr.length := by rw [la, lb, hv]
  have hbv : Pfx.beVal a.addr = Pfx.beVal b.addr := by
    simp only [pfxMax, hl, h3] at h2; omega
  have := beVal_inj _ _ hl hbv
  cases a; cases b; simp_all

-- the length last and in reverse: `other.len().cmp(&self.len())`
theorem pfxLaws : CmpLaws (fun p : Pfx => p.wf = true) pfxImpl.eq pfxImpl.cmp :=
  (((natLaws.lex natLaws).lex natLaws.rev).pull (fun p : Pfx => ((p.v6.toNat, pfxMax p), p.len)) _
    (fun _ _ => ⟨⟨trivial, trivial⟩, trivial⟩) pfxKey_inj).withEq (fun _ _ _ _ => beq_iff_eq)

/-! ### the 26 variants -/

abbrev Lawful {α} (o : OrdImpl α) : Prop := CmpLaws (fun a => o.wf a = true) o.eq o.cmp

theorem mplsLaws : Lawful mplsImpl :=
  (pfxLaws.lex bytesLaws).pull (fun m : Mpls => (m.pfx, m.labels)) _ (fun _ h => ⟨h, trivial⟩)
    (by intro a b _ _ h; cases a; cases b; simp_all)

theorem vpnLaws : Lawful vpnImpl :=
  ((pfxLaws.lex bytesLaws).lex bytesLaws).pull (fun m : Vpn => ((m.pfx, m.labels), m.rd)) _
    (fun _ h => ⟨⟨h, trivial⟩, trivial⟩)
    (by intro a b _ _ h; cases a; cases b; simp_all)

theorem rtLaws : Lawful rtImpl :=
  bytesLaws.pull (fun m : Rt => m.raw) _ (fun _ _ => trivial)
    (by intro a b _ _ h; cases a; cases b; simp_all)

private def afiOfKey (k : Nat) : Nat := if 3 ≤ k then k - 3 else if k = 0 then 1 else if k = 1 then 2 else 25

theorem afiKey_inj (a b : Nat) (h : afiKey a = afiKey b) : a = b := by
  have inv : ∀ c, afiOfKey (afiKey c) = c := fun c =>
    if h1 : c = 1 then by subst h1; rfl
    else if h2 : c = 2 then by subst h2; rfl
    else if h3 : c = 25 then by subst h3; rfl
    else by
      rw [afiKey, if_neg h1, if_neg h2, if_neg h3, afiOfKey, if_pos (Nat.le_add_right 3 c),
        Nat.add_sub_cancel_left]
  rw [← inv a, h, inv b]

theorem fsLaws : Lawful fsImpl :=
  ((natLaws.lex bytesLaws).pull (fun m : Fs => (afiKey m.afi, m.raw)) _ (fun _ _ => ⟨trivial, trivial⟩)
    (by
      intro a b _ _ h
      simp only [Prod.mk.injEq] at h
      have := afiKey_inj _ _ h.1
      cases a; cases b; simp_all)).withEq
    (by intro a b _ _; cases a; cases b; simp [fsImpl])

theorem vplsLaws : Lawful vplsImpl :=
  ((((bytesLaws.lex natLaws).lex natLaws).lex natLaws).lex natLaws).pull
    (fun m : Vpls => ((((m.rd, m.veId), m.veOff), m.veSize), m.labelBase)) _
    (fun _ _ => ⟨⟨⟨⟨trivial, trivial⟩, trivial⟩, trivial⟩, trivial⟩)
    (by intro a b _ _ h; cases a; cases b; simp_all)

private def rtypeOfKey (k : Nat) : Nat := if k = 256 ∨ 262 ≤ k then k - 256 else k

theorem rtypeKey_inj (a b : Nat) (ha : rtypeValid a = true) (hb : rtypeValid b = true)
    (h : rtypeKey a = rtypeKey b) : a = b := by
  have inv : ∀ c, rtypeValid c = true → rtypeOfKey (rtypeKey c) = c := by
    intro c hc
    simp only [rtypeValid, Bool.or_eq_true, Bool.and_eq_true, decide_eq_true_eq] at hc
    unfold rtypeKey
    split
    · rw [rtypeOfKey, if_neg (by omega)]
    · split
      · rw [rtypeOfKey, if_pos (by omega)]; omega
      · rw [rtypeOfKey, if_neg (by omega)]
  rw [← inv a ha, h, inv b hb]

theorem evpnLaws : Lawful evpnImpl :=
  ((natLaws.lex bytesLaws).pull (fun m : Evpn => (rtypeKey m.rtype, m.raw)) _ (fun _ _ => ⟨trivial, trivial⟩)
    (by
      intro a b ha hb h
      simp only [Prod.mk.injEq] at h
      have := rtypeKey_inj _ _ ha hb h.1
      cases a; cases b; simp_all)).withEq
    (by intro a b _ _; cases a; cases b; simp [evpnImpl])

theorem famLaws : (f : Fam) → Lawful (famImpl f)
  | .v4u | .v4m | .v6u | .v6m => pfxLaws
  | .v4mpls | .v6mpls => mplsLaws
  | .v4vpn | .v6vpn => vpnLaws
  | .v4rt => rtLaws
  | .v4fs | .v6fs => fsLaws
  | .vpls => vplsLaws
  | .evpn => evpnLaws

theorem derivedLaws {α} {o : OrdImpl α} (h : Lawful o) : Lawful o.addpathDerived :=
  (natLaws.lex h).pull id _ (fun _ hw => ⟨trivial, hw⟩) (fun _ _ _ _ e => e)

theorem genericLaws {α} {o : OrdImpl α} (h : Lawful o) : Lawful o.addpathGeneric :=
  ((h.lex natLaws).pull (fun x : Nat × α => (x.2, x.1)) _ (fun _ hw => ⟨hw, trivial⟩)
    (by intro a b _ _ hh; cases a; cases b; simp_all)).withEq (derivedLaws h).beq_iff

theorem famApLaws (f : Fam) : Lawful (famImplAp f) := by
  unfold famImplAp
  split
  · exact derivedLaws (famLaws f)
  · exact genericLaws (famLaws f)

/-! ### the `Nlri` enum -/

/-- `Fam.idx` numbers the constructors in their order of declaration, and `Fam.ofNat` inverts that -/
theorem idx_inj (f g : Fam) (h : Fam.idx f = Fam.idx g) : f = g := by
  have e : ∀ x, Fam.idx x = x.ctorIdx := fun x => by cases x <;> rfl
  rw [e, e] at h
  rw [← Fam.ofNat_ctorIdx f, h, Fam.ofNat_ctorIdx]

theorem idx_lt (f : Fam) : Fam.idx f < 13 := by cases f <;> decide

@[simp] theorem typeIdx_plain (f : Fam) (v : f.Val) : AnyNlri.typeIdx ⟨f, none, v⟩ = 2 * Fam.idx f := rfl
@[simp] theorem typeIdx_ap (f : Fam) (p : Nat) (v : f.Val) : AnyNlri.typeIdx ⟨f, some p, v⟩ = 2 * Fam.idx f + 1 := rfl
@[simp] theorem anyCmp_plain (f : Fam) (v w : f.Val) :
    anyCmp ⟨f, none, v⟩ ⟨f, none, w⟩ = (famImpl f).cmp v w := by simp [anyCmp]
@[simp] theorem anyCmp_ap (f : Fam) (p q : Nat) (v w : f.Val) :
    anyCmp ⟨f, some p, v⟩ ⟨f, some q, w⟩ = (famImplAp f).cmp (p, v) (q, w) := by simp [anyCmp]
@[simp] theorem anyEq_plain (f : Fam) (v w : f.Val) :
    anyEq ⟨f, none, v⟩ ⟨f, none, w⟩ = (famImpl f).eq v w := by simp [anyEq]
@[simp] theorem anyEq_ap (f : Fam) (p q : Nat) (v w : f.Val) :
    anyEq ⟨f, some p, v⟩ ⟨f, some q, w⟩ = (famImplAp f).eq (p, v) (q, w) := by simp [anyEq]

theorem any_of_ne (a b : AnyNlri) (h : a.typeIdx ≠ b.typeIdx) :
    anyEq a b = false ∧ anyCmp a b = compare a.typeIdx b.typeIdx := by
  obtain ⟨fa, pa, va⟩ := a
  obtain ⟨fb, pb, vb⟩ := b
  unfold anyEq anyCmp
  by_cases hf : fa = fb
  · subst hf
    cases pa <;> cases pb <;> simp_all
  · simp [hf]

inductive Same : AnyNlri → AnyNlri → Prop
  | plain (f : Fam) (v w : f.Val) : Same ⟨f, none, v⟩ ⟨f, none, w⟩
  | ap (f : Fam) (p q : Nat) (v w : f.Val) : Same ⟨f, some p, v⟩ ⟨f, some q, w⟩

/-- `typeIdx` is twice the family's index plus the ADD-PATH bit, so it determines both -/
theorem same_of_idx : ∀ a b : AnyNlri, a.typeIdx = b.typeIdx → Same a b
  | ⟨fa, none, _⟩, ⟨fb, none, _⟩, h => by
    obtain rfl := idx_inj fa fb (by simp only [typeIdx_plain] at h; omega)
    exact .plain ..
  | ⟨fa, some _, _⟩, ⟨fb, some _, _⟩, h => by
    obtain rfl := idx_inj fa fb (by simp only [typeIdx_ap] at h; omega)
    exact .ap ..
  | ⟨_, none, _⟩, ⟨_, some _, _⟩, h => by simp only [typeIdx_plain, typeIdx_ap] at h; omega
  | ⟨_, some _, _⟩, ⟨_, none, _⟩, h => by simp only [typeIdx_plain, typeIdx_ap] at h; omega

theorem anyWf_ap {f : Fam} {p : Nat} {v : f.Val} (h : anyWf ⟨f, some p, v⟩ = true) :
    (famImplAp f).wf (p, v) = true := by
  unfold famImplAp; split <;> exact h

theorem anyLaws : CmpLaws (fun a => anyWf a = true) anyEq anyCmp where
  refl := by
    intro a ha
    obtain ⟨f, p, v⟩ := a
    cases p with
    | none => simpa using (famLaws f).refl v ha
    | some p => simpa using (famApLaws f).refl (p, v) (anyWf_ap ha)
  eq_of_cmp := by
    intro a b ha hb h
    by_cases hi : a.typeIdx = b.typeIdx
    · cases same_of_idx a b hi with
      | plain f v w =>
        simp only [anyCmp_plain] at h
        rw [(famLaws f).eq_of_cmp v w ha hb h]
      | ap f p q v w =>
        simp only [anyCmp_ap] at h
        cases (famApLaws f).eq_of_cmp (p, v) (q, w) (anyWf_ap ha) (anyWf_ap hb) h
        rfl
    · rw [(any_of_ne a b hi).2, Nat.compare_eq_eq] at h
      exact absurd h hi
  beq_iff := by
    intro a b ha hb
    by_cases hi : a.typeIdx = b.typeIdx
    · cases same_of_idx a b hi with
      | plain f v w =>
        simp only [anyEq_plain, (famLaws f).beq_iff v w ha hb]
        exact ⟨fun h => by rw [h], fun h => by cases h; rfl⟩
      | ap f p q v w =>
        simp only [anyEq_ap, (famApLaws f).beq_iff (p, v) (q, w) (anyWf_ap ha) (anyWf_ap hb)]
        exact ⟨fun h => by cases h; rfl, fun h => by cases h; rfl⟩
    · simp only [(any_of_ne a b hi).1, Bool.false_eq_true, false_iff]
      intro h; exact hi (by rw [h])
  swap := by
    intro a b ha hb
    by_cases hi : a.typeIdx = b.typeIdx
    · cases same_of_idx a b hi with
      | plain f v w => simpa using (famLaws f).swap v w ha hb
      | ap f p q v w => simpa using (famApLaws f).swap (p, v) (q, w) (anyWf_ap ha) (anyWf_ap hb)
    · rw [(any_of_ne a b hi).2, (any_of_ne b a (Ne.symm hi)).2]
      exact (Nat.compare_swap _ _).symm
  trans_lt := by
    intro a b c ha hb hc h1 h2
    have le_of : ∀ x y : AnyNlri, anyCmp x y = .lt → x.typeIdx ≤ y.typeIdx := by
      intro x y h
      by_cases hi : x.typeIdx = y.typeIdx
      · omega
      · rw [(any_of_ne x y hi).2, Nat.compare_eq_lt] at h; omega
    have l1 := le_of a b h1
    have l2 := le_of b c h2
    by_cases hac : a.typeIdx = c.typeIdx
    · have hab : a.typeIdx = b.typeIdx := by omega
      have hbc : b.typeIdx = c.typeIdx := by omega
      cases same_of_idx a b hab with
      | plain f v w =>
        cases same_of_idx _ c hbc with
        | plain _ _ u =>
          simp only [anyCmp_plain] at h1 h2 ⊢
          exact (famLaws f).trans_lt v w u ha hb hc h1 h2
      | ap f p q v w =>
        cases same_of_idx _ c hbc with
        | ap _ _ r _ u =>
          simp only [anyCmp_ap] at h1 h2 ⊢
          exact (famApLaws f).trans_lt (p, v) (q, w) (r, u) (anyWf_ap ha) (anyWf_ap hb) (anyWf_ap hc) h1 h2
    · rw [(any_of_ne a c hac).2, Nat.compare_eq_lt]; omega

end Rc.NlriOrd
