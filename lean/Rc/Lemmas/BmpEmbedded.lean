/-
C15: the OPENs embedded in a Peer Up, through the model and theorems that own them (C03:
`Rc/Model/Open.lean`, `Rc.Thm.C03.open_accessors_total`), via the bridge `Rc/Lemmas/OpenBridge.lean`
(`OpenMessage::parse` accepts ⇒ `OpenMessage::check` accepts).
-/
import Rc.Model.BmpEmbedded
import Rc.Model.OpenParse
import Rc.Lemmas.OpenBridge
import Rc.Thm.C03

namespace Rc.Bmp
open Rc

theorem parsed_open_from_octets {bs : Bytes} {n : Nat} (h : Rc.OpenParse.openParse bs = .ok n) :
    Open.fromOctets (bs.take n) = .ok (bs.take n) := by
  have := (Rc.OpenBridge.openParse_check bs n h).2
  simp [Open.fromOctets, this]

end Rc.Bmp

namespace Rc.OpenNoErr
open Rc Rc.Open Rc.Bmp

/-! the accessor models of `Rc/Model/Open.lean` have no error result (the Rust accessors return
plain values), `addpath_families_vec` excepted -/

theorem idx_ne_err (bs : Bytes) (i : Nat) : Open.idx bs i ≠ .err := by
  unfold Open.idx; split <;> simp
theorem slice_ne_err (bs : Bytes) (a b : Nat) : Open.slice bs a b ≠ .err := by
  unfold Open.slice; split <;> simp

theorem identifier_ne_err (m : Bytes) : identifier m ≠ .err := slice_ne_err _ _ _
theorem version_ne_err (m : Bytes) : version m ≠ .err := idx_ne_err _ _

theorem bind_ne_err {α β} (x : Outcome α) (f : α → Outcome β) (hx : x ≠ .err) (hf : ∀ a, f a ≠ .err) :
    (x >>= f) ≠ .err := by
  cases x with
  | ok a => exact hf a
  | err => exact absurd rfl hx
  | panic => simp

theorem holdtime_ne_err (m : Bytes) : holdtime m ≠ .err := by
  unfold holdtime
  exact bind_ne_err _ _ (idx_ne_err _ _) fun _ => bind_ne_err _ _ (idx_ne_err _ _) fun _ => by simp
theorem asn2_ne_err (m : Bytes) : asn2 m ≠ .err := by
  unfold asn2
  exact bind_ne_err _ _ (idx_ne_err _ _) fun _ => bind_ne_err _ _ (idx_ne_err _ _) fun _ => by simp
theorem parameters_ne_err (m : Bytes) : parameters m ≠ .err := by
  fun_cases parameters m <;> simp
theorem capabilities_ne_err (m : Bytes) : capabilities m ≠ .err := by
  fun_cases capabilities m <;> simp_all [parameters_ne_err m]
theorem collect_ne_err {α} (l : Lazy α) : collect l ≠ .err := by
  unfold collect; split <;> simp
theorem lazyFind_ne_err {α} (p : α → Bool) (l : Lazy α) : lazyFind p l ≠ .err := by
  fun_cases lazyFind p l <;> simp
theorem be32val_ne_err (v : Bytes) : be32val v ≠ .err := by
  unfold be32val; split <;> simp
theorem myAsn_ne_err (m : Bytes) : myAsn m ≠ .err := by
  unfold myAsn
  refine bind_ne_err _ _ (capabilities_ne_err m) fun cs => bind_ne_err _ _ (lazyFind_ne_err _ _) fun o => ?_
  cases o with
  | none => exact asn2_ne_err m
  | some c => exact be32val_ne_err _
theorem fourOctetCapable_ne_err (m : Bytes) : fourOctetCapable m ≠ .err := by
  unfold fourOctetCapable
  refine bind_ne_err _ _ (capabilities_ne_err m) fun cs => bind_ne_err _ _ (lazyFind_ne_err _ _) fun o => ?_
  cases o <;> simp
theorem softwareVersion_ne_err (m : Bytes) : softwareVersion m ≠ .err := by
  unfold softwareVersion
  refine bind_ne_err _ _ (capabilities_ne_err m) fun cs => bind_ne_err _ _ (lazyFind_ne_err _ _) fun o => ?_
  cases o <;> simp
theorem mpLoop_ne_err (cs : List Cap) (p : Bool) : mpLoop cs p ≠ .err := by
  fun_induction mpLoop cs p <;> simp_all
theorem multiprotocolIds_ne_err (m : Bytes) : multiprotocolIds m ≠ .err := by
  unfold multiprotocolIds
  have := capabilities_ne_err m
  split
  · exact mpLoop_ne_err _ _
  · simp_all
  · simp

theorem ok_of_ne {α} {o : Outcome α} (he : o ≠ .err) (hp : o ≠ .panic) : ∃ a, o = .ok a := by
  cases o with
  | ok a => exact ⟨a, rfl⟩
  | err => exact absurd rfl he
  | panic => exact absurd rfl hp

/-- on a checked OPEN the configuration accessors return values: none panics (C03
`open_accessors_total`), none but `addpath_families_vec` has an error result, and `openCfg` turns
that one's error into a value -/
theorem openCfg_ok (m : Bytes) (h : Open.fromOctets m = .ok m) : ∃ c, openCfg m = .ok c := by
  obtain ⟨_, hv, _, hh, hi, _, hps, hcs, ha, hf, hmp, hap, hsw⟩ := Rc.Thm.C03.open_accessors_total m m h
  obtain ⟨_, e1⟩ := ok_of_ne (myAsn_ne_err m) ha
  obtain ⟨_, e2⟩ := ok_of_ne (fourOctetCapable_ne_err m) hf
  obtain ⟨_, e4⟩ := ok_of_ne (multiprotocolIds_ne_err m) hmp
  obtain ⟨_, e5⟩ := ok_of_ne (bind_ne_err _ collect (capabilities_ne_err m) collect_ne_err) hcs
  obtain ⟨_, e6⟩ := ok_of_ne (bind_ne_err _ collect (parameters_ne_err m) collect_ne_err) hps
  obtain ⟨_, e7⟩ := ok_of_ne (softwareVersion_ne_err m) hsw
  obtain ⟨_, e8⟩ := ok_of_ne (holdtime_ne_err m) hh
  obtain ⟨_, e9⟩ := ok_of_ne (identifier_ne_err m) hi
  obtain ⟨_, e10⟩ := ok_of_ne (version_ne_err m) hv
  unfold openCfg
  cases e3 : addpathFamiliesVec m with
  | panic => exact absurd e3 hap
  | ok _ | err =>
    simp only [e1, e2, e4, e5, e6, e7, e8, e9, e10]
    exact ⟨_, rfl⟩

end Rc.OpenNoErr
