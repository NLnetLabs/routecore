/-
Helper lemmas for C05 (NLRI round trips): generic codec laws, closure under
the ADD-PATH wrapper and under concatenation, the per-shape round trips, and
what each parser answers on arbitrary octets (`Codec.Sound`).
-/
import Rc.Model.Nlri

namespace Rc.Nlri
open Rc Rc.Pfx

/-! ### octets -/

theorem u8OrMax_of_le {n : Nat} (h : n ≤ 255) : u8OrMax n = n := if_pos h

theorem rd16_length {bs r : Bytes} {n : Nat} (h : rd16 bs = some (n, r)) : bs.length = r.length + 2 := by
  match bs, h with
  | a :: b :: t, h => cases h; rfl

theorem rd32_length {bs r : Bytes} {n : Nat} (h : rd32 bs = some (n, r)) : bs.length = r.length + 4 := by
  match bs, h with
  | a :: b :: c :: d :: t, h => cases h; rfl

theorem takeN_some_length {k : Nat} {t a t' : Bytes} (h : takeN k t = some (a, t')) :
    t'.length ≤ t.length := by
  obtain ⟨_, rfl⟩ := takeN_length h
  simp

/-! ### prefixes -/

theorem hostZero_take : ∀ (addr : Bytes) (len : Nat), hostZero len addr = true →
    addr.take (bitsToBytes len) ++ List.replicate (addr.length - bitsToBytes len) 0 = addr := by
  intro addr len
  fun_induction hostZero len addr
  case case1 => intro _; simp
  case case2 len b bs h8 ih =>
    intro h
    have hb : bitsToBytes len = bitsToBytes (len - 8) + 1 := by unfold bitsToBytes; omega
    simp only [hb, List.take_succ_cons, List.length_cons, Nat.add_sub_add_right, List.cons_append, ih h]
  case case3 len b bs h8 ih =>
    intro h
    simp only [Bool.and_eq_true, beq_iff_eq] at h
    -- the octets after this one are all zero: the case `len = 0` of the statement
    have hz : List.replicate bs.length 0 = bs := by simpa [bitsToBytes] using ih h.2
    by_cases h0 : len = 0
    · subst h0
      have hb : b = 0 := UInt8.toNat_inj.mp (by have := b.toNat_lt; have := h.1; simp at this ⊢; omega)
      simp [bitsToBytes, List.replicate_succ, hb, hz]
    · have hb : bitsToBytes len = 1 := by unfold bitsToBytes; omega
      simp [hb, hz]

theorem _root_.Rc.Pfx.new_some {v6 : Bool} {addr : Bytes} {len : Nat} {p : Pfx} (h : Pfx.new v6 addr len = some p) :
    p = ⟨v6, len, addr⟩ ∧ len ≤ 8 * addrLen v6 ∧ hostZero len addr = true := by
  unfold Pfx.new at h
  split at h
  · cases h
  · split at h
    · cases h; exact ⟨rfl, Nat.le_of_not_lt ‹_›, ‹_›⟩
    · cases h

theorem _root_.Rc.Pfx.wf_iff (p : Pfx) : p.wf = true ↔
    p.addr.length = addrLen p.v6 ∧ p.len ≤ 8 * addrLen p.v6 ∧ hostZero p.len p.addr = true := by
  simp [Pfx.wf, and_assoc]

theorem bitsToBytes_le (p : Pfx) (hw : p.wf = true) : bitsToBytes p.len ≤ addrLen p.v6 := by
  obtain ⟨hl, hlen, hz⟩ := p.wf_iff.mp hw
  unfold bitsToBytes; omega

theorem len_le_128 (p : Pfx) (hw : p.wf = true) : p.len ≤ 128 := by
  obtain ⟨hl, hlen, hz⟩ := p.wf_iff.mp hw
  unfold addrLen at hlen; split at hlen <;> omega

theorem composeNoLen_length (p : Pfx) (hw : p.wf = true) : p.composeNoLen.length = bitsToBytes p.len := by
  obtain ⟨hl, hlen, hz⟩ := p.wf_iff.mp hw
  have hnb := bitsToBytes_le p hw
  simp [composeNoLen, List.length_take]; omega

theorem parseBody_compose (p : Pfx) (hw : p.wf = true) (r : Bytes) :
    parseBody p.v6 p.len (p.composeNoLen ++ r) = .ok (p, r) := by
  obtain ⟨hl, hlen, hz⟩ := p.wf_iff.mp hw
  have htl := composeNoLen_length p hw
  have hpad : pad (addrLen p.v6) p.composeNoLen = p.addr := by
    unfold pad
    rw [htl, ← hl]
    exact hostZero_take p.addr p.len hz
  simp only [parseBody, takeN_append_of_length htl, hpad, Pfx.new, hz, Nat.not_lt.mpr hlen, ↓reduceIte]

/-- What C05 asks of one codec. -/
structure Codec.Laws {α} (c : Codec α) : Prop where
  /-- the announced length is the number of octets written, for every value of the Rust type -/
  len_eq : ∀ n bs, c.inv n = true → c.enc n = .ok bs → bs.length = c.clen n
  /-- well-formed values are values of the Rust type -/
  wf_inv : ∀ n, c.wf n = true → c.inv n = true
  /-- a well-formed value is composed (no panic) into at least one octet -/
  enc_ok : ∀ n, c.wf n = true → ∃ bs, c.enc n = .ok bs ∧ bs ≠ []
  /-- decoding the composed octets, followed by anything, gives the value back and leaves exactly the rest -/
  roundtrip : ∀ n bs r, c.wf n = true → c.enc n = .ok bs → c.dec (bs ++ r) = .ok (n, r)

/-! ### ADD-PATH wrapper -/

theorem Codec.addpath_enc_ok {α} {c : Codec α} {x : Nat × α} {e : Bytes} :
    c.addpath.enc x = .ok e ↔ ∃ bs, c.enc x.2 = .ok bs ∧ e = be32 x.1 ++ bs := by
  simp only [Codec.addpath]
  cases c.enc x.2 <;> simp [eq_comm]

theorem Codec.Laws.addpath {α} {c : Codec α} (h : c.Laws) : c.addpath.Laws where
  len_eq := by
    intro n e hi he
    obtain ⟨bs, hb, rfl⟩ := Codec.addpath_enc_ok.mp he
    simp only [List.length_append, be32_length, Codec.addpath, h.len_eq _ _ hi hb]
  wf_inv := fun n hw => h.wf_inv _ (Bool.and_eq_true_iff.mp hw).2
  enc_ok := by
    intro n hw
    obtain ⟨bs, hb, _⟩ := h.enc_ok _ (Bool.and_eq_true_iff.mp hw).2
    exact ⟨_, Codec.addpath_enc_ok.mpr ⟨bs, hb, rfl⟩, by simp [be32]⟩
  roundtrip := by
    intro n e r hw he
    obtain ⟨bs, hb, rfl⟩ := Codec.addpath_enc_ok.mp he
    simp only [Codec.addpath, Bool.and_eq_true, decide_eq_true_eq] at hw ⊢
    simp only [List.append_assoc, rd32_be32 _ hw.1, h.roundtrip _ _ r hw.2 hb]

/-! ### concatenations (`NlriIter`) -/

theorem encAll_cons_ok {α} (c : Codec α) (n : α) (ns : List α) (a b : Bytes)
    (ha : c.enc n = .ok a) (hb : encAll c ns = .ok b) : encAll c (n :: ns) = .ok (a ++ b) := by
  simp [encAll, ha, hb]

theorem decAllFuel_encAll {α} {c : Codec α} (h : c.Laws) :
    ∀ ns : List α, (∀ n ∈ ns, c.wf n = true) →
      ∃ bs, encAll c ns = .ok bs ∧
        ∀ fuel, bs.length ≤ fuel → decAllFuel c fuel bs = .ok (ns, true) := by
  intro ns
  induction ns with
  | nil => intro _; exact ⟨[], rfl, by intro fuel _; cases fuel <;> rfl⟩
  | cons n ns ih =>
    intro hw
    obtain ⟨a, ha, hne⟩ := h.enc_ok n (hw n (by simp))
    obtain ⟨b, hb, hdec⟩ := ih (fun m hm => hw m (by simp [hm]))
    refine ⟨a ++ b, encAll_cons_ok c n ns a b ha hb, ?_⟩
    intro fuel hf
    have hrt := h.roundtrip n a b (hw n (by simp)) ha
    match a, hne, fuel with
    | x :: a', _, 0 => simp at hf
    | x :: a', _, f + 1 =>
      have hfb : b.length ≤ f := by simp at hf; omega
      simp only [List.cons_append] at hrt ⊢
      simp only [decAllFuel, hrt, hdec f hfb]

/-- A concatenation of composed well-formed values decodes to exactly the
original sequence and ends cleanly. -/
theorem Codec.Laws.list_roundtrip {α} {c : Codec α} (h : c.Laws) (ns : List α)
    (hw : ∀ n ∈ ns, c.wf n = true) :
    ∃ bs, encAll c ns = .ok bs ∧ decAll c bs = .ok (ns, true) := by
  obtain ⟨bs, hb, hd⟩ := decAllFuel_encAll h ns hw
  exact ⟨bs, hb, hd _ (Nat.le_refl _)⟩

/-! ### per-shape laws -/

theorem pfxCodec_laws (v6 : Bool) : (pfxCodec v6).Laws where
  len_eq := by
    intro n bs hi he
    simp only [pfxCodec] at hi he ⊢
    cases he
    simp [Pfx.compose, composeNoLen_length n hi, Pfx.composeLen, Nat.add_comm]
  wf_inv := by
    intro n hw
    simp only [pfxCodec, Bool.and_eq_true] at hw ⊢
    exact hw.1
  enc_ok := by
    intro n _
    exact ⟨n.compose, rfl, by simp [Pfx.compose]⟩
  roundtrip := by
    intro n bs r hw he
    simp only [pfxCodec, Bool.and_eq_true, beq_iff_eq] at hw he
    cases he
    obtain ⟨hw, hv⟩ := hw
    subst hv
    simp only [pfxCodec, Pfx.compose, List.cons_append, Pfx.parse, parseForLenChecked,
      UInt8.toNat_ofNat_of_lt' (Nat.lt_of_le_of_lt (len_le_128 n hw) (by decide)), Nat.not_lt.mpr (bitsToBytes_le n hw),
      ↓reduceIte, parseBody_compose n hw r]

/-! ### labels -/

theorem parseLabels_spec : ∀ (x l r : Bytes), parseLabels x = some (l, r) →
    x = l ++ r ∧ ∀ z, parseLabels (l ++ z) = some (l, z) := by
  intro x l r
  fun_induction parseLabels x generalizing l r
  case case1 a b c t hs =>
    intro h
    cases h
    simp [parseLabels, hs]
  case case2 a b c t hs l' r' hrec ih =>
    intro h
    cases h
    obtain ⟨h1, h2⟩ := ih _ _ hrec
    simp [parseLabels, hs, h1, h2]
  all_goals exact fun h => by cases h

theorem parseLabels_exact (x l r : Bytes) (h : parseLabels x = some (l, r)) :
    parseLabels l = some (l, []) ∧ x = l ++ r := by
  obtain ⟨h1, h2⟩ := parseLabels_spec x l r h
  exact ⟨by simpa using h2 [], h1⟩

theorem labelsExact_append (ls r : Bytes) (h : labelsExact ls = true) :
    parseLabels (ls ++ r) = some (ls, r) :=
  (parseLabels_spec ls ls [] (by simpa [labelsExact] using h)).2 r

/-! ### MPLS, MPLS-VPN -/

theorem parseForLen_compose (p : Pfx) (hw : p.wf = true) (r : Bytes) :
    parseForLen p.v6 p.len (p.composeNoLen ++ r) = .ok (p, r) := by
  simp only [parseForLen, Nat.not_lt.mpr (bitsToBytes_le p hw), ↓reduceIte, parseBody_compose p hw r]

theorem encMpls_wf {v6 : Bool} {m : Mpls} (hw : mplsWf v6 m = true) :
    encMpls m = .ok (UInt8.ofNat (8 * m.labels.length + m.pfx.len) :: (m.labels ++ m.pfx.composeNoLen)) := by
  simp only [mplsWf, Bool.and_eq_true, decide_eq_true_eq] at hw
  simp only [encMpls, u8OrMax_of_le (Nat.le_trans (Nat.le_add_right _ _) hw.2), Nat.not_lt.mpr hw.2, ↓reduceIte]

/-- `MplsNlri::compose` panics exactly when its `u8` sum overflows (K3) -/
theorem encMpls_panic (m : Mpls) : encMpls m = .panic ↔ 255 < u8OrMax (8 * m.labels.length) + m.pfx.len := by
  by_cases h : 255 < u8OrMax (8 * m.labels.length) + m.pfx.len <;> simp [encMpls, h]

theorem mplsCodec_laws (v6 : Bool) : (mplsCodec v6).Laws where
  len_eq := by
    intro n bs hi he
    simp only [mplsCodec, encMpls] at hi he ⊢
    split at he <;> cases he
    simp [composeNoLen_length n.pfx hi, mplsLen]; omega
  wf_inv := by
    intro n hw
    simp only [mplsCodec, mplsWf, Bool.and_eq_true] at hw ⊢
    exact hw.1.1.1
  enc_ok := fun n hw => ⟨_, encMpls_wf hw, List.cons_ne_nil _ _⟩
  roundtrip := by
    intro n bs r hw he
    cases (encMpls_wf hw).symm.trans he
    simp only [mplsCodec, mplsWf, Bool.and_eq_true, decide_eq_true_eq, beq_iff_eq] at hw ⊢
    obtain ⟨⟨⟨hp, rfl⟩, hl⟩, hb⟩ := hw
    simp only [List.cons_append, List.append_assoc, decMpls, labelsExact_append _ _ hl, UInt8.toNat_ofNat_of_lt' (Nat.lt_succ_of_le hb),
      Nat.not_lt.mpr (Nat.le_trans (Nat.le_add_right _ _) hb), Nat.not_lt.mpr (Nat.le_add_right _ _),
      ↓reduceIte, Nat.add_sub_cancel_left, parseForLen_compose n.pfx hp r]

theorem encVpn_wf {v6 : Bool} {m : Vpn} (hw : vpnWf v6 m = true) :
    encVpn m = .ok (UInt8.ofNat (8 * (8 + m.labels.length) + m.pfx.len) ::
      (m.labels ++ (m.rd ++ m.pfx.composeNoLen))) := by
  simp only [vpnWf, Bool.and_eq_true, decide_eq_true_eq] at hw
  simp only [encVpn, u8OrMax_of_le (Nat.le_trans (Nat.le_add_right _ _) hw.2), Nat.not_lt.mpr hw.2, ↓reduceIte]

theorem encVpn_panic (m : Vpn) :
    encVpn m = .panic ↔ 255 < u8OrMax (8 * (8 + m.labels.length)) + m.pfx.len := by
  by_cases h : 255 < u8OrMax (8 * (8 + m.labels.length)) + m.pfx.len <;> simp [encVpn, h]

theorem vpnCodec_laws (v6 : Bool) : (vpnCodec v6).Laws where
  len_eq := by
    intro n bs hi he
    simp only [vpnCodec, encVpn, Bool.and_eq_true, beq_iff_eq] at hi he ⊢
    split at he <;> cases he
    simp [composeNoLen_length n.pfx hi.1, vpnLen, hi.2]; omega
  wf_inv := by
    intro n hw
    simp only [vpnCodec, vpnWf, Bool.and_eq_true] at hw ⊢
    exact ⟨hw.1.1.1.1, hw.1.2⟩
  enc_ok := fun n hw => ⟨_, encVpn_wf hw, List.cons_ne_nil _ _⟩
  roundtrip := by
    intro n bs r hw he
    cases (encVpn_wf hw).symm.trans he
    simp only [vpnCodec, vpnWf, Bool.and_eq_true, decide_eq_true_eq, beq_iff_eq] at hw ⊢
    obtain ⟨⟨⟨⟨hp, rfl⟩, hl⟩, hrd⟩, hb⟩ := hw
    simp only [List.cons_append, List.append_assoc, decVpn, labelsExact_append _ _ hl, UInt8.toNat_ofNat_of_lt' (Nat.lt_succ_of_le hb),
      Nat.not_lt.mpr (Nat.le_trans (Nat.le_add_right _ _) hb), Nat.not_lt.mpr (Nat.le_add_right _ _),
      ↓reduceIte, takeN_append_of_length hrd, Nat.add_sub_cancel_left, parseForLen_compose n.pfx hp r]

/-! ### route target, EVPN, VPLS -/

theorem rtCodec_laws : rtCodec.Laws where
  len_eq := by
    intro n bs _ he
    simp only [rtCodec, Outcome.ok.injEq] at he ⊢
    subst he
    simp [encRt]; omega
  wf_inv := by intro n _; rfl
  enc_ok := by intro n _; exact ⟨encRt n, rfl, by simp [encRt]⟩
  roundtrip := by
    intro n bs r hw he
    simp only [rtCodec, decide_eq_true_eq, Outcome.ok.injEq] at hw he ⊢
    subst he
    have hu : u8OrMax (8 * n.raw.length) ≤ 255 := by unfold u8OrMax; split <;> omega
    have hb : bitsToBytes (u8OrMax (8 * n.raw.length)) = n.raw.length := by
      unfold bitsToBytes u8OrMax; split <;> omega
    simp only [encRt, List.cons_append, decRt, UInt8.toNat_ofNat_of_lt' (Nat.lt_succ_of_le hu), hb, takeN_append]

theorem evpnCodec_laws : evpnCodec.Laws where
  len_eq := by
    intro n bs _ he
    simp only [evpnCodec, Outcome.ok.injEq] at he ⊢
    subst he
    simp [encEvpn]; omega
  wf_inv := by intro n _; rfl
  enc_ok := by intro n _; exact ⟨encEvpn n, rfl, by simp [encEvpn]⟩
  roundtrip := by
    intro n bs r hw he
    simp only [evpnCodec, Bool.and_eq_true, decide_eq_true_eq, Outcome.ok.injEq] at hw he ⊢
    subst he
    simp only [encEvpn, List.cons_append, decEvpn, u8OrMax_of_le hw.2, UInt8.toNat_ofNat_of_lt' (Nat.lt_succ_of_le hw.2), takeN_append,
      UInt8.toNat_ofNat_of_lt' hw.1]

theorem be24_eq (n : Nat) (h : n < 16777216) :
    ∃ a b c : UInt8, be24 n = [a, b, c] ∧ a.toNat * 65536 + (b.toNat * 256 + c.toNat) = n :=
  ⟨_, _, _, rfl, by simp only [UInt8.toNat_ofNat']; omega⟩

theorem rd24_be24 (n : Nat) (h : n < 16777216) (r : Bytes) :
    (match be24 n ++ r with
     | a :: b :: c :: r5 => some (a.toNat * 65536 + (b.toNat * 256 + c.toNat), r5)
     | _ => none) = some (n, r) := by
  obtain ⟨a, b, c, e, rfl⟩ := be24_eq n h
  rw [e]; rfl

theorem vplsCodec_laws : vplsCodec.Laws where
  len_eq := by
    intro n bs hi he
    simp only [vplsCodec, Outcome.ok.injEq, beq_iff_eq] at hi he ⊢
    subst he
    simp [encVpls, be24, hi]
  wf_inv := by
    intro n hw
    simp only [vplsCodec, Bool.and_eq_true] at hw ⊢
    exact hw.1.1.1.1
  enc_ok := by intro n _; exact ⟨encVpls n, rfl, by simp [encVpls, be16]⟩
  roundtrip := by
    intro n bs r hw he
    simp only [vplsCodec, Bool.and_eq_true, decide_eq_true_eq, Outcome.ok.injEq, beq_iff_eq] at hw he ⊢
    subst he
    obtain ⟨⟨⟨⟨hrd, h1⟩, h2⟩, h3⟩, h4⟩ := hw
    obtain ⟨a, b, c, e, hv⟩ := be24_eq _ h4
    simp only [encVpls, List.append_assoc, decVpls, rd16_be16 17 (by decide), takeN_append_of_length hrd, rd16_be16 _ h1,
      rd16_be16 _ h2, rd16_be16 _ h3, e, List.cons_append, List.nil_append, hv]

/-! ### FlowSpec -/

theorem parseOps_spec : ∀ (f : Nat) (x y : Bytes), parseOps f x = some y →
    ∃ c, x = c ++ y ∧ ∀ f' z, c.length ≤ f' → parseOps f' (c ++ z) = some z := by
  intro f x y
  fun_induction parseOps f x
  case case4 f op t a r ht hop =>
    intro h
    cases h
    obtain ⟨hl, rfl⟩ := takeN_length ht
    refine ⟨op :: a, rfl, fun f' z hf => ?_⟩
    match f', hf with
    | g + 1, _ => simp only [List.cons_append, parseOps, takeN_append_of_length hl, hop, ↓reduceIte]
  case case5 f op t a r ht hop ih =>
    intro h
    obtain ⟨hl, rfl⟩ := takeN_length ht
    obtain ⟨c, rfl, hc⟩ := ih h
    refine ⟨op :: (a ++ c), by simp, fun f' z hf => ?_⟩
    match f', hf with
    | g + 1, hf =>
      simp only [List.length_cons, List.length_append] at hf
      simp only [List.cons_append, List.append_assoc, parseOps, takeN_append_of_length hl, hop, ↓reduceIte]
      exact hc g z (by omega)
  all_goals exact fun h => by cases h

theorem parseComponent_spec (x y : Bytes) (h : parseComponent x = some y) :
    ∃ c, c ≠ [] ∧ x = c ++ y ∧ ∀ z, parseComponent (c ++ z) = some z := by
  revert h
  fun_cases parseComponent x
  case case3 t ht pb r1 nb h0 =>
    intro h
    cases h
    simp only [nb] at h0
    exact ⟨[t, pb], by simp, rfl, fun z => by simp [parseComponent, ht, h0]⟩
  case case6 t ht pb r1 nb h0 h5 a r2 htk hsome =>
    intro h
    cases h
    obtain ⟨hl, rfl⟩ := takeN_length htk
    simp only [nb] at h0 h5 hl
    refine ⟨t :: pb :: a, by simp, rfl, fun z => ?_⟩
    simp only [List.cons_append, parseComponent, ht, h0, h5, takeN_append_of_length hl, hsome, ↓reduceIte,
      Bool.false_eq_true]
  case case8 t r ht hr =>
    intro h
    obtain ⟨c, rfl, hc⟩ := parseOps_spec _ _ _ h
    refine ⟨t :: c, by simp, rfl, fun z => ?_⟩
    simp only [List.cons_append, parseComponent, ht, hr, ↓reduceIte, Bool.false_eq_true]
    exact hc _ z (by simp)
  -- the remaining branches answer `none`
  all_goals exact fun h => by cases h

theorem fsLoop_step {c : Bytes} (hs : ∀ z, parseComponent (c ++ z) = some z) (f : Nat) {need : Nat}
    (h0 : need ≠ 0) (z : Bytes) :
    fsLoop (f + 1) need (c ++ z) = true ↔ c.length ≤ need ∧ fsLoop f (need - c.length) z = true := by
  have e : (c ++ z).length - z.length = c.length := by simp
  simp only [fsLoop, beq_iff_eq, h0, ↓reduceIte, hs, e]
  by_cases hc : need < c.length
  · simp [hc, Nat.not_le.mpr hc]
  · simp [hc, Nat.le_of_not_lt hc]

theorem fsLoopExact_step {c : Bytes} (hne : c ≠ []) (hs : ∀ z, parseComponent (c ++ z) = some z)
    (f : Nat) (z : Bytes) : fsExact.fsLoopExact (f + 1) (c ++ z) = fsExact.fsLoopExact f z := by
  match hc : c ++ z with
  | [] => exact absurd (List.append_eq_nil_iff.mp hc).1 hne
  | b :: t => simp only [fsExact.fsLoopExact]; rw [← hc, hs]

theorem fsLoop_of_exact : ∀ (f : Nat) (raw r : Bytes), fsExact.fsLoopExact f raw = true →
    fsLoop f raw.length (raw ++ r) = true
  | 0, [], _, _ => rfl
  | 0, _ :: _, _, h => by simp [fsExact.fsLoopExact] at h
  | _ + 1, [], _, _ => by simp [fsLoop]
  | f + 1, b :: t, r, h => by
    cases hy : parseComponent (b :: t) with
    | none => simp [fsExact.fsLoopExact, hy] at h
    | some y =>
      obtain ⟨c, hne, hx, hs⟩ := parseComponent_spec _ _ hy
      rw [hx] at h ⊢
      rw [fsLoopExact_step hne hs] at h
      rw [List.append_assoc, fsLoop_step hs f (by simp [hne])]
      simpa using fsLoop_of_exact f y r h

theorem fsExact_of_loop : ∀ (f need : Nat) (x : Bytes), need ≤ x.length → fsLoop f need x = true →
    fsExact.fsLoopExact f (x.take need) = true
  | 0, need, x, _, h => by
    simp only [fsLoop, beq_iff_eq] at h
    subst h
    rfl
  | f + 1, need, x, hle, h => by
    by_cases h0 : need = 0
    · subst h0; rfl
    · cases hy : parseComponent x with
      | none => simp [fsLoop, h0, hy] at h
      | some y =>
        obtain ⟨c, hne, rfl, hs⟩ := parseComponent_spec _ _ hy
        obtain ⟨hc, h⟩ := (fsLoop_step hs f h0 y).mp h
        rw [List.take_append, List.take_of_length_le hc, fsLoopExact_step hne hs]
        exact fsExact_of_loop f _ y (by simp at hle; omega) h

/-- `decFs` after the length field -/
def fsBody (v6 : Bool) (len : Nat) (r : Bytes) : Outcome (Fs × Bytes) :=
  if r.length < len then .err
  else if !v6 && !fsLoop (len + 1) len r then .err
  else .ok (⟨if v6 then 2 else 1, r.take len⟩, r.drop len)

theorem decFs_short (v6 : Bool) {l1 : UInt8} (h : l1.toNat < 240) (r : Bytes) :
    decFs v6 (l1 :: r) = fsBody v6 l1.toNat r := by
  simp only [decFs, fsBody, Nat.not_le.mpr h, ↓reduceIte]

theorem decFs_long (v6 : Bool) {l1 : UInt8} (h : 240 ≤ l1.toNat) (l2 : UInt8) (r : Bytes) :
    decFs v6 (l1 :: l2 :: r) = fsBody v6 ((l1.toNat * 256 + l2.toNat) % 4096) r := by
  simp only [decFs, fsBody, h, ↓reduceIte]

theorem decFs_encFs (v6 : Bool) (n : Fs) (hlen : n.raw.length ≤ 4095) (r : Bytes) :
    decFs v6 (encFs n ++ r) = fsBody v6 n.raw.length (n.raw ++ r) := by
  unfold encFs
  by_cases h240 : 240 ≤ n.raw.length
  · have h1 : 0xf000 ||| n.raw.length = 0xf000 + n.raw.length := by
      have := Nat.two_pow_add_eq_or_of_lt (i := 12) (b := n.raw.length) (by omega) 15
      simpa using this.symm
    simp only [h240, show n.raw.length ≤ 65535 by omega, ↓reduceIte, h1, be16, List.cons_append, List.nil_append]
    rw [decFs_long v6 (by simp only [UInt8.toNat_ofNat']; omega)]
    congr 1
    simp only [UInt8.toNat_ofNat']; omega
  · simp only [h240, ↓reduceIte, List.cons_append, List.nil_append]
    have e : (UInt8.ofNat n.raw.length).toNat = n.raw.length := UInt8.toNat_ofNat_of_lt' (show _ < 256 by omega)
    rw [decFs_short v6 (by omega), e]

theorem fsCodec_laws (v6 : Bool) : (fsCodec v6).Laws where
  len_eq := by
    intro n bs _ he
    simp only [fsCodec, Outcome.ok.injEq] at he ⊢
    subst he
    simp only [encFs, fsLen]
    split <;> simp <;> omega
  wf_inv := by intro n _; rfl
  enc_ok := by
    intro n _
    refine ⟨encFs n, rfl, ?_⟩
    simp only [encFs]; split <;> simp [be16]
  roundtrip := by
    intro n bs r hw he
    cases he
    simp only [fsCodec, fsWf, Bool.and_eq_true, decide_eq_true_eq, beq_iff_eq, Bool.or_eq_true] at hw ⊢
    obtain ⟨⟨hafi, hlen⟩, hex⟩ := hw
    have hloop : (!v6 && !fsLoop (n.raw.length + 1) n.raw.length (n.raw ++ r)) = false := by
      rcases hex with rfl | h
      · rfl
      · simp [fsLoop_of_exact _ _ r h]
    rw [decFs_encFs v6 n hlen, fsBody, if_neg (by simp), hloop, ← hafi]
    simp

/-! ### what a parser answers on arbitrary octets -/

def Answers {α : Type} (P : α → Bytes → Prop) : Outcome (α × Bytes) → Prop
  | .ok (a, r) => P a r
  | .err => True
  | .panic => False

section
variable {α : Type} {P Q : α → Bytes → Prop} {o : Outcome (α × Bytes)}

theorem Answers.of_ok {a : α} {r : Bytes} (h : Answers P o) (e : o = .ok (a, r)) : P a r := by
  subst e; exact h

theorem Answers.ne_panic (h : Answers P o) : o ≠ .panic := by
  rintro rfl; exact h

theorem Answers.imp (h : Answers P o) (hpq : ∀ a r, P a r → Q a r) : Answers Q o := by
  match o, h with
  | .ok (a, r), h => exact hpq a r h
  | .err, _ => trivial

end

def Codec.Sound {α : Type} (c : Codec α) : Prop :=
  ∀ bs, Answers (fun a r => c.wf a = true ∧ r.length < bs.length) (c.dec bs)

theorem parseBody_sound {v6 : Bool} {bits : Nat} (hnb : bitsToBytes bits ≤ addrLen v6) (bs : Bytes) :
    Answers (fun p r => p.wf = true ∧ p.v6 = v6 ∧ p.len = bits ∧ r.length ≤ bs.length)
      (parseBody v6 bits bs) := by
  fun_cases parseBody v6 bits bs
  case case3 a r ht p hp =>
    obtain ⟨hl, rfl⟩ := takeN_length ht
    obtain ⟨rfl, hle, hz⟩ := Pfx.new_some hp
    refine ⟨(Pfx.wf_iff _).mpr ⟨?_, hle, hz⟩, rfl, rfl, by simp⟩
    simp [pad, hl]; omega
  all_goals trivial

theorem parseForLen_sound (v6 : Bool) (bits : Nat) (bs : Bytes) :
    Answers (fun p r => p.wf = true ∧ p.v6 = v6 ∧ p.len = bits ∧ r.length ≤ bs.length)
      (parseForLen v6 bits bs) := by
  unfold parseForLen
  split
  · trivial
  · exact parseBody_sound (Nat.le_of_not_lt ‹_›) bs

theorem pfxCodec_sound (v6 : Bool) : (pfxCodec v6).Sound := by
  intro bs
  show Answers _ (Pfx.parse v6 bs)
  unfold Pfx.parse
  split
  · trivial
  · unfold parseForLenChecked
    split
    · trivial
    · exact (parseBody_sound (Nat.le_of_not_lt ‹_›) _).imp fun _ _ ⟨h1, h2, _, hr⟩ =>
        ⟨by simp [pfxCodec, h1, h2], Nat.lt_succ_of_le hr⟩

theorem mplsCodec_sound (v6 : Bool) : (mplsCodec v6).Sound := by
  intro bs
  show Answers _ (decMpls v6 bs)
  fun_cases decMpls v6 bs
  case case5 b0 r0 ls r1 hl _ hb0 p r2 hp =>
    obtain ⟨hex, rfl⟩ := parseLabels_exact _ _ _ hl
    obtain ⟨h1, h2, h3, hr⟩ := (parseForLen_sound v6 _ r1).of_ok hp
    have := b0.toNat_lt
    refine ⟨?_, by simp only [List.length_cons, List.length_append]; omega⟩
    simp only [mplsCodec, mplsWf, h1, h2, h3, labelsExact, hex, beq_self_eq_true, Bool.and_self,
      Bool.true_and, decide_eq_true_eq]
    omega
  case case7 b0 r0 ls r1 _ _ _ hp => exact absurd hp (parseForLen_sound v6 _ r1).ne_panic
  all_goals trivial

theorem vpnCodec_sound (v6 : Bool) : (vpnCodec v6).Sound := by
  intro bs
  show Answers _ (decVpn v6 bs)
  fun_cases decVpn v6 bs
  case case6 b0 r0 ls r1 hl _ hb0 rd r2 hrd p r3 hp =>
    obtain ⟨hex, rfl⟩ := parseLabels_exact _ _ _ hl
    obtain ⟨hrl, rfl⟩ := takeN_length hrd
    obtain ⟨h1, h2, h3, hr⟩ := (parseForLen_sound v6 _ r2).of_ok hp
    have := b0.toNat_lt
    refine ⟨?_, by simp only [List.length_cons, List.length_append]; omega⟩
    simp only [vpnCodec, vpnWf, h1, h2, h3, labelsExact, hex, hrl, beq_self_eq_true, Bool.and_self,
      Bool.true_and, decide_eq_true_eq]
    omega
  case case8 b0 r0 ls r1 _ _ _ rd r2 _ hp => exact absurd hp (parseForLen_sound v6 _ r2).ne_panic
  all_goals trivial

theorem rtCodec_sound : rtCodec.Sound := by
  intro bs
  show Answers _ (decRt bs)
  fun_cases decRt bs
  case case3 b0 r0 raw r1 ht =>
    obtain ⟨hl, rfl⟩ := takeN_length ht
    have := b0.toNat_lt
    refine ⟨?_, by simp only [List.length_cons, List.length_append]; omega⟩
    simp only [rtCodec, decide_eq_true_eq, hl, bitsToBytes]; omega
  all_goals trivial

theorem evpnCodec_sound : evpnCodec.Sound := by
  intro bs
  show Answers _ (decEvpn bs)
  fun_cases decEvpn bs
  case case2 t l r0 raw r1 ht =>
    obtain ⟨hl, rfl⟩ := takeN_length ht
    have := t.toNat_lt
    have := l.toNat_lt
    refine ⟨?_, by simp; omega⟩
    simp only [evpnCodec, Bool.and_eq_true, decide_eq_true_eq, hl]; omega
  all_goals trivial

theorem vplsCodec_sound : vplsCodec.Sound := by
  intro bs
  show Answers _ (decVpls bs)
  fun_cases decVpls bs
  case case6 len r0 h0 rd r1 hrd veId r2 h1 veOff r3 h2 veSize a b c r5 h3 =>
    obtain ⟨hrl, rfl⟩ := takeN_length hrd
    have := rd16_length h0; have := rd16_length h1; have := rd16_length h2; have := rd16_length h3
    have := rd16_lt h1; have := rd16_lt h2; have := rd16_lt h3
    have := a.toNat_lt; have := b.toNat_lt; have := c.toNat_lt
    refine ⟨?_, by simp only [List.length_cons, List.length_append] at *; omega⟩
    simp only [vplsCodec, hrl, beq_self_eq_true, Bool.true_and, Bool.and_eq_true, decide_eq_true_eq]
    omega
  all_goals trivial

theorem fsBody_sound (v6 : Bool) {len : Nat} (hlen : len ≤ 4095) (rest : Bytes) :
    Answers (fun n r => fsWf v6 n = true ∧ r.length ≤ rest.length) (fsBody v6 len rest) := by
  unfold fsBody
  split
  · trivial
  · rename_i hle
    split
    · trivial
    · rename_i hloop
      have htl : (rest.take len).length = len := List.length_take_of_le (Nat.le_of_not_lt hle)
      refine ⟨?_, by simp⟩
      simp only [fsWf, beq_self_eq_true, Bool.true_and, htl, Bool.and_eq_true, decide_eq_true_eq, Bool.or_eq_true]
      refine ⟨hlen, ?_⟩
      cases v6
      · right
        simpa [fsExact, htl] using fsExact_of_loop (len + 1) len rest (Nat.le_of_not_lt hle) (by simpa using hloop)
      · left; rfl

theorem fsCodec_sound (v6 : Bool) : (fsCodec v6).Sound := by
  intro bs
  show Answers _ (decFs v6 bs)
  match bs with
  | [] => trivial
  | l1 :: r0 =>
    by_cases h240 : 240 ≤ l1.toNat
    · match r0 with
      | [] => simp only [decFs, h240, ↓reduceIte]; trivial
      | l2 :: r1 =>
        rw [decFs_long v6 h240]
        exact (fsBody_sound v6 (Nat.le_of_lt_succ (Nat.mod_lt _ (by decide))) r1).imp fun _ _ ⟨hw, hr⟩ =>
          ⟨hw, by simp only [List.length_cons]; omega⟩
    · rw [decFs_short v6 (Nat.lt_of_not_le h240)]
      exact (fsBody_sound v6 (by omega) r0).imp fun _ _ ⟨hw, hr⟩ => ⟨hw, Nat.lt_succ_of_le hr⟩

theorem Codec.Sound.addpath {α : Type} {c : Codec α} (h : c.Sound) : c.addpath.Sound := by
  intro bs
  simp only [Codec.addpath]
  split
  · trivial
  · rename_i pid r0 hrd
    have := rd32_length hrd
    split
    · rename_i n r hd
      obtain ⟨hw, hr⟩ := (h r0).of_ok hd
      exact ⟨by simp [hw, (rd32_spec hrd).1], by show r.length < _; omega⟩
    · trivial
    · exact absurd ‹_› (h r0).ne_panic

/-! ### all families -/

theorem codec_laws : (f : Fam) → (codec f).Laws
  | .v4u | .v4m => pfxCodec_laws false
  | .v6u | .v6m => pfxCodec_laws true
  | .v4mpls => mplsCodec_laws false
  | .v6mpls => mplsCodec_laws true
  | .v4vpn => vpnCodec_laws false
  | .v6vpn => vpnCodec_laws true
  | .v4rt => rtCodec_laws
  | .v4fs => fsCodec_laws false
  | .v6fs => fsCodec_laws true
  | .vpls => vplsCodec_laws
  | .evpn => evpnCodec_laws

theorem codecAp_laws (f : Fam) : (codecAp f).Laws := (codec_laws f).addpath

theorem codec_sound : (f : Fam) → (codec f).Sound
  | .v4u | .v4m => pfxCodec_sound false
  | .v6u | .v6m => pfxCodec_sound true
  | .v4mpls => mplsCodec_sound false
  | .v6mpls => mplsCodec_sound true
  | .v4vpn => vpnCodec_sound false
  | .v6vpn => vpnCodec_sound true
  | .v4rt => rtCodec_sound
  | .v4fs => fsCodec_sound false
  | .v6fs => fsCodec_sound true
  | .vpls => vplsCodec_sound
  | .evpn => evpnCodec_sound

theorem codec_dec_wf (f : Fam) (bs : Bytes) (n : f.Val) (r : Bytes) (h : (codec f).dec bs = .ok (n, r)) :
    (codec f).wf n = true := ((codec_sound f bs).of_ok h).1

theorem codecAp_dec_wf (f : Fam) (bs : Bytes) (n : Nat × f.Val) (r : Bytes)
    (h : (codecAp f).dec bs = .ok (n, r)) : (codecAp f).wf n = true := (((codec_sound f).addpath bs).of_ok h).1

end Rc.Nlri
