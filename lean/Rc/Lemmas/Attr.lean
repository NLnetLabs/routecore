/-
Lemmas about the typed path attribute model (Rc/Model/Attr.lean):
well-formedness of values and their normal form, value codecs of every kind
(validate accepts / parse inverts compose_value), the StandardCommunitiesList
bookkeeping, header split of a composed header, the 20 type codes.  Reused by
C04 and the UPDATE-level properties.
-/
import Rc.Model.Attr
import Rc.Lemmas.AsPath

namespace Rc.Attr
open Rc Rc.AsPath

def u32ok (n : Nat) : Bool := decide (n < 4294967296)

/-- every record has the fixed size of its community type (in Rust: `[u8; k]`) -/
def recsOk (k : Nat) (cs : List Bytes) : Bool := cs.all fun c => c.length == k

/-- the invariant `add_community` maintains from `new()` -/
def SCL.wf (l : SCL) : Bool :=
  (l.len == l.cs.length * 4) && (l.extended == decide (l.len > 255)) && l.cs.all u32ok

/-- type invariants of the Rust values (field widths, record sizes, the
`StandardCommunitiesList` invariant) plus, for the two AS path kinds, the hop
paths of C13's quantifier (`WfHops`: excludes K2, a segment hop with more than
255 ASNs, AND a non-empty AS_SEQUENCE held as one segment hop – the latter is
API-buildable and admitted by `WfAttrG` below); segment hops may be stored in
either width. -/
def WfAttrW : TypedAttr → Bool
  | .origin v => decide (v < 256)
  | .asPath h => WfHops h
  | .nextHop a => u32ok a
  | .med n => u32ok n
  | .localPref n => u32ok n
  | .atomicAggregate => true
  | .aggregator a b => u32ok a && u32ok b
  | .communities l => l.wf
  | .originatorId a => u32ok a
  | .clusterList ids => ids.all u32ok
  | .extCommunities cs => recsOk 8 cs
  | .as4Path h => WfHops h
  | .as4Aggregator a b => u32ok a && u32ok b
  | .connector a => u32ok a
  | .asPathLimit ub asn => decide (ub < 256) && u32ok asn
  | .ipv6ExtCommunities cs => recsOk 20 cs
  | .largeCommunities cs => recsOk 12 cs
  | .otc a => u32ok a
  | .attrSet o _ => u32ok o
  | .reserved _ => true

/-- the segment hops of a path attribute are stored four-octet wide (what
`Segment::new_*` and decoding in a four-octet session produce) -/
def pathsFour : TypedAttr → Bool
  | .asPath h => AllFour h
  | .as4Path h => AllFour h
  | _ => true

/-- well-formed value whose AS path segments (if any) are four-octet wide -/
def WfAttr (a : TypedAttr) : Bool := WfAttrW a && pathsFour a

/-- the value with its path segments re-read from a four-octet wire path; Rust's
`==` on `HopPath` does not see the difference (C13 `segEq`). -/
def TypedAttr.norm : TypedAttr → TypedAttr
  | .asPath h => .asPath (h.map (Hop.norm true))
  | .as4Path h => .as4Path (h.map (Hop.norm true))
  | a => a

/-- as `WfAttrW`, but the hop path of AS_PATH / AS4_PATH may be ANY hop path the
public API builds minus K2 (`WfHopsG`): also a non-empty AS_SEQUENCE held as one
`Hop::Segment`, and two-octet segment hops. -/
def WfAttrG : TypedAttr → Bool
  | .asPath h => WfHopsG h
  | .as4Path h => WfHopsG h
  | a => WfAttrW a

/-- the normal form of a value: the hop path of AS_PATH / AS4_PATH replaced by
its flat hop sequence (an AS_SEQUENCE segment hop becomes its ASNs, segment hops
become four octets wide) – the value a receiver sees. Every other kind is its
own normal form. -/
def TypedAttr.normG : TypedAttr → TypedAttr
  | .asPath h => .asPath (flat true h)
  | .as4Path h => .as4Path (flat true h)
  | a => a

theorem norm_of_wf (a : TypedAttr) (wf : WfAttr a = true) : a.norm = a := by
  cases a with
  | asPath h | as4Path h => exact congrArg _ (map_norm_allFour h (Bool.and_eq_true_iff.mp wf).2)
  | _ => rfl

theorem wfAttrG_of_wfAttrW (a : TypedAttr) (wf : WfAttrW a = true) : WfAttrG a = true := by
  cases a with
  | asPath h | as4Path h => exact wfHopsG_of_wfHops h wf
  | _ => exact wf

theorem normG_eq_norm (a : TypedAttr) (wf : WfAttrW a = true) : a.normG = a.norm := by
  cases a with
  | asPath h | as4Path h => exact congrArg _ (flat_of_wfHops true h wf)
  | _ => rfl

theorem normG_idem (a : TypedAttr) : a.normG.normG = a.normG := by
  cases a with
  | asPath h | as4Path h => simp only [TypedAttr.normG, flat_idem]
  | _ => rfl

theorem normG_code (a : TypedAttr) : a.normG.code = a.code := by cases a <;> rfl

theorem normG_wf (a : TypedAttr) (wf : WfAttrG a = true) : WfAttr a.normG = true := by
  cases a with
  | asPath h | as4Path h => exact Bool.and_eq_true_iff.mpr (wfHops_flat h wf)
  | _ => exact (Bool.and_true _).trans wf

theorem normG_eq_self_iff (a : TypedAttr) (wf : WfAttrG a = true) :
    a.normG = a ↔ WfAttr a = true :=
  ⟨fun e => e ▸ normG_wf a wf,
    fun w => (normG_eq_norm a (Bool.and_eq_true_iff.mp w).1).trans (norm_of_wf a w)⟩

/-- Rust's `==` does not see the re-reading of segment hops four octets wide -/
theorem eqRust_norm (a : TypedAttr) : a.norm.eqRust a = true := by
  cases a with
  | asPath h | as4Path h => exact hopPathEq_norm true h
  | _ => exact beq_self_eq_true _

theorem rd32_be32' (n : Nat) (h : n < 4294967296) : rd32 (be32 n) = some (n, []) := by
  simpa using rd32_be32 n h []

theorem dec32O_be32 (n : Nat) (h : n < 4294967296) (r : Bytes) :
    dec32O (be32 n ++ r) = (dec32O r >>= fun l => .ok (n :: l)) := by
  simp only [be32, List.cons_append, List.nil_append, dec32O, be32_value h]
  cases dec32O r <;> rfl

theorem dec32O_enc32 : ∀ (l : List Nat), l.all u32ok = true → dec32O (enc32 l) = .ok l
  | [], _ => rfl
  | a :: r, h => by
    simp only [List.all_cons, Bool.and_eq_true, u32ok, decide_eq_true_eq] at h
    rw [enc32_cons, dec32O_be32 a h.1, dec32O_enc32 r h.2, Outcome.bind_ok]

theorem flatten_length_recs (k : Nat) : ∀ (cs : List Bytes), recsOk k cs = true →
    cs.flatten.length = cs.length * k
  | [], _ => by simp
  | c :: r, h => by
    simp only [recsOk, List.all_cons, Bool.and_eq_true, beq_iff_eq] at h
    have ih := flatten_length_recs k r h.2
    simp [ih, h.1, Nat.add_mul]; omega

theorem chunkO_flatten (k : Nat) (hk : 0 < k) : ∀ (cs : List Bytes) (f : Nat),
    recsOk k cs = true → cs.flatten.length ≤ f → chunkO k f cs.flatten = .ok cs
  | [], f, _, _ => by cases f <;> simp [chunkO]
  | c :: r, f, h, hf => by
    simp only [recsOk, List.all_cons, Bool.and_eq_true, beq_iff_eq] at h
    have hc := h.1
    have hlen : (c :: r).flatten.length = k + r.flatten.length := by simp [hc]
    match f, hf with
    | 0, hf => exact absurd hf (by omega)
    | f + 1, hf =>
      have ih := chunkO_flatten k hk r f h.2 (by omega)
      have hne : ((c :: r).flatten).isEmpty = false :=
        List.isEmpty_eq_false_iff.mpr (List.ne_nil_of_length_pos (by omega))
      have ht : takeN k (c ++ r.flatten) = some (c, r.flatten) := by
        rw [← hc]; exact takeN_append _ _
      unfold chunkO
      simp only [hne, Bool.false_eq_true, if_false]
      simp only [List.flatten_cons, ht, ih]

theorem scl_fold : ∀ (cs : List Nat) (l0 : SCL), l0.extended = decide (l0.len > 255) →
    cs.foldl SCL.add l0 =
      ⟨l0.cs ++ cs, l0.len + 4 * cs.length, decide (l0.len + 4 * cs.length > 255)⟩
  | [], l0, h => by cases l0; simp_all
  | c :: r, l0, h => by
    have hadd : (l0.add c).extended = decide ((l0.add c).len > 255) := by
      simp only [SCL.add, h]
      by_cases h1 : l0.len > 255 <;> by_cases h2 : l0.len + 4 > 255 <;> simp [h1, h2] <;> omega
    rw [List.foldl_cons, scl_fold r (l0.add c) hadd]
    simp only [SCL.add, List.append_assoc, List.singleton_append, List.length_cons, SCL.mk.injEq,
      true_and]
    exact ⟨by omega, decide_eq_decide.mpr (by omega)⟩

theorem scl_of_wf (l : SCL) (h : l.wf = true) : l.cs.foldl SCL.add SCL.empty = l := by
  simp only [SCL.wf, Bool.and_eq_true, beq_iff_eq] at h
  rw [scl_fold l.cs SCL.empty (by simp [SCL.empty])]
  obtain ⟨⟨h1, h2⟩, _⟩ := h
  cases l
  simp only [SCL.empty, List.nil_append, Nat.zero_add, SCL.mk.injEq, true_and] at *
  subst h1
  exact ⟨by omega, (h2.trans (decide_eq_decide.mpr (by omega))).symm⟩

/-- For every API-buildable value: `compose_value` succeeds, `value_len` is the number of bytes
it writes, the type's `validate` accepts those bytes and its `parse` returns the normal form. -/
theorem value_specG (a : TypedAttr) (wf : WfAttrG a = true) :
    ∃ v, composeValue a = .ok v ∧ valueLen a = .ok v.length ∧
      validate a.code true v = some true ∧ parseValue a.code true v = .ok a.normG := by
  cases a with
  | origin v =>
    have hv : v < 256 := of_decide_eq_true wf
    exact ⟨[UInt8.ofNat v], rfl, rfl, rfl,
      by simp [parseValue, TypedAttr.code, TypedAttr.normG, rd8, UInt8.toNat_ofNat_of_lt' hv]⟩
  | asPath h | as4Path h =>
    obtain ⟨w, _, c1, c2, _, _, _, c6⟩ := compose_readG h wf
    exact ⟨w, by simp [composeValue, pathBytes, c1], by simp [valueLen, pathBytes, c1],
      by simp [validate, TypedAttr.code, pathValid, c2],
      by simp [parseValue, TypedAttr.code, TypedAttr.normG, parsePath, c2, c6]⟩
  | nextHop n | med n | localPref n | originatorId n | connector n | otc n =>
    have hn : n < 4294967296 := of_decide_eq_true wf
    exact ⟨be32 n, rfl, rfl, rfl,
      by simp [parseValue, TypedAttr.code, TypedAttr.normG, rd32_be32' n hn]⟩
  | atomicAggregate =>
    exact ⟨[], rfl, rfl, rfl,
      by simp [parseValue, TypedAttr.code, TypedAttr.normG]⟩
  | aggregator asn addr | as4Aggregator asn addr =>
    have h : asn < 4294967296 ∧ addr < 4294967296 :=
      (Bool.and_eq_true_iff.mp wf).imp of_decide_eq_true of_decide_eq_true
    exact ⟨be32 asn ++ be32 addr, rfl, rfl, rfl,
      by simp [parseValue, TypedAttr.code, TypedAttr.normG, rd32_be32 asn h.1, rd32_be32' addr h.2]⟩
  | communities l =>
    have hall : l.cs.all u32ok = true := by
      simp only [WfAttrG, WfAttrW, SCL.wf, Bool.and_eq_true] at wf; exact wf.2
    exact ⟨enc32 l.cs, rfl, by simp [valueLen], by simp [validate, TypedAttr.code],
      by simp [parseValue, TypedAttr.code, TypedAttr.normG, dec32O_enc32 l.cs hall, scl_of_wf l wf]⟩
  | clusterList ids =>
    exact ⟨enc32 ids, rfl, by simp [valueLen], by simp [validate, TypedAttr.code],
      by simp [parseValue, TypedAttr.code, TypedAttr.normG, dec32O_enc32 ids wf]⟩
  | extCommunities cs | ipv6ExtCommunities cs | largeCommunities cs =>
    have hl := flatten_length_recs _ cs wf
    exact ⟨cs.flatten, rfl, by simp [valueLen, hl], by simp [validate, TypedAttr.code, hl],
      by simp [parseValue, TypedAttr.code, TypedAttr.normG, -List.length_flatten,
        chunkO_flatten _ (by omega) cs _ wf (Nat.le_refl _)]⟩
  | asPathLimit ub asn =>
    have h : ub < 256 ∧ asn < 4294967296 :=
      (Bool.and_eq_true_iff.mp wf).imp of_decide_eq_true of_decide_eq_true
    exact ⟨UInt8.ofNat ub :: be32 asn, rfl, rfl, rfl,
      by simp [parseValue, TypedAttr.code, TypedAttr.normG, rd8,
        UInt8.toNat_ofNat_of_lt' h.1, rd32_be32' asn h.2]⟩
  | attrSet o attrs =>
    have hn : o < 4294967296 := of_decide_eq_true wf
    exact ⟨be32 o ++ attrs, rfl, by simp [valueLen], rfl,
      by simp [parseValue, TypedAttr.code, TypedAttr.normG, rd32_be32 o hn]⟩
  | reserved raw =>
    exact ⟨raw, rfl, rfl, rfl,
      by simp [parseValue, TypedAttr.code, TypedAttr.normG]⟩

/-- The same for the values over C13's quantifier (path segments of either
width): `parse` returns the value, its segment hops four octets wide. -/
theorem value_spec (a : TypedAttr) (wf : WfAttrW a = true) :
    ∃ v, composeValue a = .ok v ∧ valueLen a = .ok v.length ∧
      validate a.code true v = some true ∧ parseValue a.code true v = .ok a.norm := by
  rw [← normG_eq_norm a wf]
  exact value_specG a (wfAttrG_of_wfAttrW a wf)

theorem composeHeader_length (f c n : Nat) : (composeHeader f c n).length = headerLen n := by
  unfold composeHeader headerLen
  split <;> simp

theorem extBit_plain (f : Nat) (hf : f = 0x40 ∨ f = 0x80 ∨ f = 0xC0) :
    extBit (UInt8.ofNat f) = false ∧ extBit (UInt8.ofNat (f ||| 0x10)) = true ∧
      (UInt8.ofNat f).toNat = f ∧ (UInt8.ofNat (f ||| 0x10)).toNat = f + 16 := by
  rcases hf with rfl | rfl | rfl <;> decide

theorem splitAttr_long (fl tc : UInt8) (v r : Bytes) (hx : extBit fl = true)
    (hl : v.length ≤ 65535) :
    splitAttr (fl :: tc :: (be16 v.length ++ (v ++ r))) = some (fl, tc, v, r) := by
  simp only [splitAttr, hx, if_true, rd16_be16 v.length (by omega), takeN_append]

theorem splitAttr_short (fl tc : UInt8) (v r : Bytes) (hx : extBit fl = false)
    (hl : v.length ≤ 255) :
    splitAttr (fl :: tc :: UInt8.ofNat v.length :: (v ++ r)) = some (fl, tc, v, r) := by
  simp only [splitAttr, hx, Bool.false_eq_true, if_false, rd8, UInt8.toNat_ofNat_of_lt' (Nat.lt_succ_of_le hl), takeN_append]

theorem splitAttr_composeHeader (flags code n : Nat) (v r : Bytes)
    (hf : flags = 0x40 ∨ flags = 0x80 ∨ flags = 0xC0) (hv : v.length = n) (hn : n ≤ 65535) :
    splitAttr (composeHeader flags code n ++ (v ++ r)) =
      some (UInt8.ofNat (if n > 255 then flags ||| 0x10 else flags), UInt8.ofNat code, v, r) := by
  obtain ⟨e1, e2, _, _⟩ := extBit_plain flags hf
  subst hv
  unfold composeHeader
  by_cases hx : v.length > 255
  · rw [if_pos hx, if_pos hx, Nat.min_eq_left hn]
    exact splitAttr_long _ _ v r e2 hn
  · rw [if_neg hx, if_neg hx, Nat.min_eq_left (by omega)]
    exact splitAttr_short _ _ v r e1 (by omega)

/-- the type codes of the 20 kinds: the rows of the `path_attributes!` table -/
def typedCodes : List Nat :=
  [1, 2, 3, 4, 5, 6, 7, 8, 9, 10, 16, 17, 18, 20, 21, 25, 32, 35, 128, 255]

theorem none_of_not_typed {c : Nat} (h : c ∉ typedCodes) :
    canonicalFlags c = none ∧ ∀ four v, validate c four v = none := by
  simp only [typedCodes, List.mem_cons, List.not_mem_nil, or_false, not_or] at h
  simp [canonicalFlags, validate, h]

theorem typedCodes_flags : ∀ c ∈ typedCodes,
    ((canonicalFlags c).getD 0 = 0x40 ∨ (canonicalFlags c).getD 0 = 0x80 ∨
        (canonicalFlags c).getD 0 = 0xC0) ∧
      canonicalFlags c = some ((canonicalFlags c).getD 0) ∧ c < 256 := by
  decide

theorem typed_of_flags {c cf : Nat} (h : canonicalFlags c = some cf) : c ∈ typedCodes :=
  Decidable.by_contra fun hn => by simp [(none_of_not_typed hn).1] at h

theorem typed_of_validate {c : Nat} {four : Bool} {v : Bytes} {b : Bool} (h : validate c four v = some b) :
    c ∈ typedCodes :=
  Decidable.by_contra fun hn => by simp [(none_of_not_typed hn).2] at h

theorem validate_none {c : Nat} (h : canonicalFlags c = none) (four : Bool) (v : Bytes) :
    validate c four v = none :=
  (none_of_not_typed fun hm => by rw [(typedCodes_flags c hm).2.1] at h; cases h).2 four v

theorem flags_cases (a : TypedAttr) :
    (a.flags = 0x40 ∨ a.flags = 0x80 ∨ a.flags = 0xC0) ∧ canonicalFlags a.code = some a.flags ∧
      a.code < 256 :=
  typedCodes_flags a.code (by cases a <;> simp only [TypedAttr.code] <;> decide)

/-! ### the `_ => .err` arms of `parseValue` / `toOwned` never swallow a panic

`parseValue` (codes 2, 17: `match parsePath .. | .ok h => .. | _ => .err`; the
`dec32O` / `chunkO` arms) and `toOwned` (`| _ => .err`) collapse every non-`ok`
outcome of their scrutinee into `.err`. In Rust a panic of `to_hop_path` (the
`expect`s of `PathSegments`) would NOT become an `Err`. The lemmas below show
that none of these scrutinees is ever `.panic`, i.e. the model with the panic
propagated (`| .panic => .panic | .err => .err`) is the same function: in
particular `to_hop_path` after a successful `AsPath::new` cannot panic. -/

theorem parsePath_no_panic (four : Bool) (v : Bytes) : parsePath four v ≠ .panic := by
  unfold parsePath
  cases hc : check four v with
  | ok u =>
    cases u
    obtain ⟨ss, _, _, _, hh, _⟩ := wire_view four v hc
    simp [hh]
  | err => simp
  | panic => simp

theorem dec32O_no_panic (v : Bytes) : dec32O v ≠ .panic := by
  fun_induction dec32O v
  case case4 h ih => exact absurd h ih
  all_goals simp

theorem chunkO_no_panic (k : Nat) (f : Nat) (v : Bytes) : chunkO k f v ≠ .panic := by
  fun_induction chunkO k f v
  case case7 h ih => exact absurd h ih
  all_goals simp

theorem validate_width (code : Nat) (v : Bytes) (h2 : code ≠ 2) (h7 : code ≠ 7) :
    validate code false v = validate code true v := by
  unfold validate
  simp only [h2, h7, ↓reduceIte]

theorem parseValue_width (code : Nat) (v : Bytes) (h2 : code ≠ 2) (h7 : code ≠ 7) :
    parseValue code false v = parseValue code true v := by
  unfold parseValue
  simp only [h2, h7, ↓reduceIte]

theorem check_of_pathValid {four : Bool} {v : Bytes} (h : pathValid four v = true) : check four v = .ok () := by
  unfold pathValid at h
  cases hc : check four v with
  | ok u => rfl
  | err => simp [hc] at h
  | panic => simp [hc] at h

end Rc.Attr
