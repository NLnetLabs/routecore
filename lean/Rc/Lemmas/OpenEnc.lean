/-
Encoding lemmas for the OPEN model: what the decoder does on encoded
capabilities / parameters.
-/
import Rc.Model.Open
import Rc.Lemmas.Header
import Rc.Lemmas.OpenTotal

namespace Rc.Open
open Rc

theorem readLoop_append (k fuel c len : Nat) (body rest : Bytes)
    (h : readLoop k fuel c len body = true) : readLoop k fuel c len (body ++ rest) = true := by
  fun_induction readLoop k fuel c len body with
  | case1 => rfl
  | case2 _ _ _ body hc hk ih =>
    have : k ≤ (body ++ rest).length := by rw [List.length_append]; omega
    simp only [readLoop, hc, this, if_true]
    rw [List.drop_append_of_le_length hk]
    exact ih h
  | case3 => cases h
  | case4 _ _ _ _ hc => simp [readLoop, hc]

/-- the content rules only ever read forward: bytes following the value do not
turn an accepted value into a rejected one -/
theorem capContent_append (code len : Nat) (body rest : Bytes)
    (h : capContent code len body = .ok ()) : capContent code len (body ++ rest) = .ok () := by
  unfold capContent at h ⊢
  split at h
  case h_5 | h_7 | h_17 =>
    -- 5, 8, 71: the tuple loop
    rw [req_ok] at h ⊢
    exact readLoop_append _ _ _ _ _ _ h
  case h_9 =>
    -- 64: two octets, then the loop
    simp only [req_ok, Bool.and_eq_true, decide_eq_true_eq] at h ⊢
    refine ⟨by rw [List.length_append]; omega, ?_⟩
    rw [List.drop_append_of_le_length h.1]
    exact readLoop_append _ _ _ _ _ _ h.2
  case h_18 =>
    -- 73: the same split of `body ++ rest` has `rest` behind it
    split at h
    · rename_i hl r
      split at h
      · rename_i x dl r2 ht
        have ⟨hx, hr⟩ := takeN_length ht
        have : takeN hl.toNat (r ++ rest) = some (x, dl :: (r2 ++ rest)) := by
          rw [hr, ← hx]; simpa using takeN_append x (dl :: (r2 ++ rest))
        simp only [req_ok, decide_eq_true_eq] at h
        simp only [List.cons_append, this, req_ok, decide_eq_true_eq, List.length_append]
        omega
      · cases h
    · cases h
  case h_3 | h_4 | h_15 | h_19 =>
    -- 3, 130, 69, 75: the same octets, more behind them
    split at h
    · simp only [req_ok, decide_eq_true_eq] at h
      simp only [List.cons_append, req_ok, decide_eq_true_eq, List.length_append]
      omega
    · cases h
  case h_22 => rfl
  all_goals
    simp only [req_ok, Bool.and_eq_true, decide_eq_true_eq, beq_iff_eq, bne_iff_ne, ne_eq,
      List.length_append] at h ⊢
    omega

/-- a capability the decoder accepts when it stands alone: its value fits the
one-octet length and passes the content rules of its type -/
def WfCap (c : Cap) : Prop :=
  c.value.length ≤ 255 ∧ capContent c.code.toNat c.value.length c.value = .ok ()

instance (c : Cap) : Decidable (WfCap c) := by unfold WfCap; exact inferInstance

theorem parseCap_enc (c : Cap) (rest : Bytes) (h : WfCap c) :
    parseCap (encCap c ++ rest) = .ok (c, rest) := by
  unfold parseCap encCap
  simp only [List.cons_append, UInt8.toNat_ofNat_of_lt' (Nat.lt_succ_of_le h.1)]
  rw [capContent_append _ _ _ _ h.2]
  simp [takeN_append]

theorem encCap_length (c : Cap) : (encCap c).length = 2 + c.value.length := by
  simp [encCap]; omega

theorem caps_enc (cs : List Cap) (h : ∀ c ∈ cs, WfCap c) (fuel : Nat)
    (hf : (encCaps cs).length ≤ fuel) :
    capsIter fuel (encCaps cs) = (cs, false) ∧ capsCheck fuel (encCaps cs) = .ok () := by
  induction cs generalizing fuel with
  | nil => cases fuel <;> simp [encCaps, capsIter, capsCheck]
  | cons c cs ih =>
    have e : encCaps (c :: cs) = encCap c ++ encCaps cs := by simp [encCaps]
    rw [e, List.length_append, encCap_length] at hf
    obtain ⟨n, rfl⟩ : ∃ n, fuel = n + 1 := ⟨fuel - 1, by omega⟩
    have hne : encCaps (c :: cs) ≠ [] := e ▸ List.cons_ne_nil _ _
    have ⟨i1, i2⟩ := ih (fun c' hc' => h c' (by simp [hc'])) n (by omega)
    have hp := parseCap_enc c (encCaps cs) (h c (by simp))
    rw [← e] at hp
    constructor
    · simp only [capsIter, hp, i1]
    · rw [capsCheck_succ n hne, hp]
      exact i2

/-- an optional parameter as the sender thinks of it -/
inductive PSpec where
  | caps (cs : List Cap)                 -- a Capabilities parameter (type 2)
  | other (typ : UInt8) (v : Bytes)      -- any other parameter type
  deriving DecidableEq, Repr

def PSpec.toParam : PSpec → Param
  | .caps cs => ⟨2, encCaps cs⟩
  | .other t v => ⟨t, v⟩

def PSpec.capList : PSpec → List Cap
  | .caps cs => cs
  | .other _ _ => []

def allCaps (l : List PSpec) : List Cap := l.flatMap PSpec.capList

def WfPSpec : PSpec → Prop
  | .caps cs => (∀ c ∈ cs, WfCap c) ∧ (encCaps cs).length ≤ 255
  | .other t v => t.toNat ≠ 2 ∧ v.length ≤ 255

theorem paramCheck_enc (p : PSpec) (rest : Bytes) (h : WfPSpec p) :
    paramCheck (encParam p.toParam ++ rest) = .ok rest := by
  cases p with
  | caps cs =>
    obtain ⟨h1, h2⟩ := h
    unfold paramCheck
    simp only [PSpec.toParam, encParam, List.cons_append, UInt8.toNat_ofNat_of_lt' (Nat.lt_succ_of_le h2), takeN_append]
    have : (2 : UInt8).toNat = 2 := rfl
    simp only [this, if_true]
    rw [(caps_enc cs h1 _ (Nat.le_refl _)).2]
  | other t v =>
    obtain ⟨h1, h2⟩ := h
    unfold paramCheck
    simp only [PSpec.toParam, encParam, List.cons_append, UInt8.toNat_ofNat_of_lt' (Nat.lt_succ_of_le h2), takeN_append]
    simp [h1]

theorem encParam_length (p : Param) : (encParam p).length = 2 + p.value.length := by
  simp [encParam]; omega

theorem params_enc (l : List PSpec) (h : ∀ p ∈ l, WfPSpec p) (fuel : Nat)
    (hf : (encParams (l.map PSpec.toParam)).length ≤ fuel) :
    paramsIter fuel (encParams (l.map PSpec.toParam)) = (l.map PSpec.toParam, false) ∧
    paramsCheck fuel (encParams (l.map PSpec.toParam)) = .ok () := by
  induction l generalizing fuel with
  | nil => cases fuel <;> simp [encParams, paramsIter, paramsCheck]
  | cons p l ih =>
    have hp := h p (by simp)
    have e : encParams ((p :: l).map PSpec.toParam) =
        encParam p.toParam ++ encParams (l.map PSpec.toParam) := by simp [encParams]
    rw [e] at hf ⊢
    rw [List.length_append, encParam_length] at hf
    obtain ⟨n, rfl⟩ : ∃ n, fuel = n + 1 := ⟨fuel - 1, by omega⟩
    have ⟨i1, i2⟩ := ih (fun p' hp' => h p' (by simp [hp'])) n (by omega)
    have hv : p.toParam.value.length ≤ 255 := by
      cases p with
      | caps cs => exact hp.2
      | other t v => exact hp.2
    constructor
    · simp only [encParam, List.cons_append, paramsIter, UInt8.toNat_ofNat_of_lt' (Nat.lt_succ_of_le hv),
        takeN_append, i1]
      rfl
    · rw [paramsCheck_succ n (by simp [encParam]), paramCheck_enc p _ hp]
      exact i2

theorem flatCaps_enc (l : List PSpec) (h : ∀ p ∈ l, WfPSpec p) :
    flatCaps (l.map PSpec.toParam) false = (allCaps l, false) := by
  induction l with
  | nil => simp [flatCaps, allCaps]
  | cons p l ih =>
    have hp := h p (by simp)
    have ih' := ih (fun p' hp' => h p' (by simp [hp']))
    simp only [List.map_cons]
    unfold flatCaps
    cases p with
    | caps cs =>
      have : (2 : UInt8).toNat = 2 := rfl
      simp only [PSpec.toParam, this, if_true]
      have e := (caps_enc cs hp.1 _ (Nat.le_refl _)).1
      simp [e, ih', allCaps, PSpec.capList]
    | other t v =>
      simp only [PSpec.toParam, hp.1, if_false]
      simp [ih', allCaps, PSpec.capList]

theorem openCheck_layout (t : UInt8) (f9 : Bytes) (opl : UInt8) (ps : Bytes)
    (hf9 : f9.length = 9) (hps : ps.length = opl.toNat)
    (hpc : paramsCheck ps.length ps = .ok ()) :
    openCheck ((header (29 + ps.length) t ++ f9 ++ [opl]) ++ ps) = .ok () := by
  unfold openCheck
  have hlt : ps.length < 256 := by rw [hps]; exact opl.toNat_lt
  have e : (header (29 + ps.length) t ++ f9 ++ [opl]) ++ ps =
      header (29 + ps.length) t ++ (f9 ++ (opl :: ps)) := by simp
  rw [e, headerCheck_header _ _ _ (by simp [hf9]; omega) (by omega)]
  simp only
  rw [← hf9, takeN_append]
  simp only
  rw [← hps]
  have : takeN ps.length ps = some (ps, []) := by simpa using takeN_append ps []
  simp [this, hpc]

theorem idx_header_append (n : Nat) (t : UInt8) (r : Bytes) (i : Nat) :
    idx (header n t ++ r) (19 + i) = idx r i := by
  unfold idx
  rw [List.getElem?_append_right (by simp [header_length])]
  simp [header_length]

theorem length_header_append (n : Nat) (hn : n < 65536) (t : UInt8) (r : Bytes) :
    length (header n t ++ r) = .ok n := by
  have hs : slice (header n t ++ r) 0 19 = .ok (header n t) := by
    unfold slice; simp [header_length]
  simp only [length, hs, Outcome.bind_ok]
  have e : header n t = marker ++ (be16 n ++ [t]) := by simp [header]
  have i16 : idx (header n t) 16 = .ok (UInt8.ofNat (n / 256)) := by
    unfold idx; rw [e, List.getElem?_append_right (by simp)]; simp [be16]
  have i17 : idx (header n t) 17 = .ok (UInt8.ofNat n) := by
    unfold idx; rw [e, List.getElem?_append_right (by simp)]; simp [be16]
  simp only [i16, i17, Outcome.bind_ok, Outcome.pure_eq]
  exact congrArg _ (be16_value hn)

def mpSpec (cs : List Cap) : List (Nat × Nat) :=
  cs.filterMap fun c =>
    if c.code.toNat = 1 then
      match c.value with
      | [a, b, _, s] => some (a.toNat * 256 + b.toNat, s.toNat)
      | _ => none
    else none

theorem mpLoop_spec (cs : List Cap) (h : ∀ c ∈ cs, GoodCap c) : mpLoop cs false = .ok (mpSpec cs) := by
  induction cs with
  | nil => simp [mpLoop, mpSpec]
  | cons c cs ih =>
    have ih' := ih (fun c' hc' => h c' (by simp [hc']))
    unfold mpLoop
    by_cases h1 : c.code.toNat = 1
    · have hv := (h c (by simp)).2 h1
      match hcv : c.value, hv with
      | [a, b, r, s], _ =>
        simp [h1, mpOne, idx, ih', mpSpec, hcv]
    · simp [h1, ih', mpSpec]

theorem mpLoop_ok (cs : List Cap) (h : ∀ c ∈ cs, GoodCap c) : ∃ l, mpLoop cs false = .ok l :=
  ⟨_, mpLoop_spec cs h⟩

/-- every ADD-PATH entry of every ADD-PATH capability, in wire order; `none` if some chunk is malformed -/
def apSpec : List Cap → Option (List (Nat × Nat × Nat))
  | [] => some []
  | c :: cs =>
    if c.code.toNat = 69 then
      match apValue c.value, apSpec cs with
      | some l, some l' => some (l ++ l')
      | _, _ => none
    else apSpec cs

theorem apLoop_ok_spec (cs : List Cap) (l : List (Nat × Nat × Nat)) (h : apSpec cs = some l) :
    apLoop cs false = .ok l := by
  fun_induction apSpec cs generalizing l with
  | case1 => cases h; rfl
  | case2 _ _ h69 _ l2 hs hv ih =>
    cases h
    simp [apLoop, h69, hv, ih l2 hs]
  | case3 => cases h
  | case4 _ _ h69 ih => simp [apLoop, h69, ih l h]

def encApEntry (e : Nat × Nat × Nat) : Bytes := be16 e.1 ++ [UInt8.ofNat e.2.1, UInt8.ofNat e.2.2]

def WfApEntry (e : Nat × Nat × Nat) : Prop := e.1 < 65536 ∧ e.2.1 < 256 ∧ 1 ≤ e.2.2 ∧ e.2.2 ≤ 3

instance (e : Nat × Nat × Nat) : Decidable (WfApEntry e) := by unfold WfApEntry; exact inferInstance

theorem apValue_enc (es : List (Nat × Nat × Nat)) (h : ∀ e ∈ es, WfApEntry e) :
    apValue (es.flatMap encApEntry) = some es := by
  unfold apValue
  suffices ∀ fuel, (es.flatMap encApEntry).length ≤ fuel →
      (chunks4 fuel (es.flatMap encApEntry)).mapM apChunk = some es from this _ (Nat.le_refl _)
  induction es with
  | nil => intro fuel _; cases fuel <;> simp [chunks4]
  | cons e es ih =>
    intro fuel hf
    obtain ⟨a, s, d⟩ := e
    have ⟨h1, h2, h3, h4⟩ := h (a, s, d) (by simp)
    simp only at h1 h2 h3 h4
    have e4 : encApEntry (a, s, d) = [UInt8.ofNat (a / 256), UInt8.ofNat a, UInt8.ofNat s, UInt8.ofNat d] := by
      simp [encApEntry, be16]
    simp only [List.flatMap_cons, e4] at hf ⊢
    cases fuel with
    | zero => simp at hf
    | succ n =>
      simp only [List.cons_append, List.nil_append, chunks4]
      have ih' := ih (fun e' he' => h e' (by simp [he'])) n (by
        simp only [List.length_append, List.length_cons, List.length_nil] at hf; omega)
      simp only [List.take, List.drop, List.mapM_cons, apChunk]
      simp only [UInt8.toNat_ofNat']
      have hd : d % 2 ^ 8 = d := by omega
      have hs : s % 2 ^ 8 = s := by omega
      have ha : a / 256 % 2 ^ 8 * 256 + a % 2 ^ 8 = a := by omega
      simp [hd, hs, ha, h3, h4, ih']

/-- an accepted OPEN (`openCheck_ok`) and an encoded one are both of this form -/
theorem accessors_of_layout {m ps : Bytes} {n : Nat} {t v a1 a2 h1 h2 i0 i1 i2 i3 opl : UInt8}
    (hm : m = (header n t ++ [v, a1, a2, h1, h2, i0, i1, i2, i3] ++ [opl]) ++ ps) (hn : n < 65536)
    (hps : ps.length = opl.toNat) {pl : List Param} (hpi : paramsIter ps.length ps = (pl, false))
    {cl : List Cap} (hfc : flatCaps pl false = (cl, false)) (hg : ∀ c ∈ cl, GoodCap c) :
    length m = .ok n ∧ version m = .ok v ∧ asn2 m = .ok (a1.toNat * 256 + a2.toNat) ∧
    holdtime m = .ok (h1.toNat * 256 + h2.toNat) ∧ identifier m = .ok [i0, i1, i2, i3] ∧
    optParmLen m = .ok opl ∧ parameters m = .ok (pl, false) ∧ capabilities m = .ok (cl, false) ∧
    myAsn m = (match cl.find? (fun c => c.code.toNat == 65) with
      | some c => be32val c.value
      | none => .ok (a1.toNat * 256 + a2.toNat)) ∧
    fourOctetCapable m = .ok (cl.any fun c => c.code.toNat == 65) ∧
    multiprotocolIds m = .ok (mpSpec cl) ∧ addpathFamiliesVec m = apLoop cl false ∧
    softwareVersion m = .ok ((cl.find? fun c => c.code.toNat == 75).map (·.value)) := by
  have hparams : parameters m = .ok (pl, false) := by
    rw [hm, ← hpi]
    exact parameters_of_layout _ opl ps (by simp [header_length]) hps
  have hcaps : capabilities m = .ok (cl, false) := by simp [capabilities, hparams, hfc]
  have hm' : m = header n t ++ ([v, a1, a2, h1, h2, i0, i1, i2, i3, opl] ++ ps) := by rw [hm]; simp
  have ix (k : Nat) : idx m (19 + k) = idx ([v, a1, a2, h1, h2, i0, i1, i2, i3, opl] ++ ps) k := by
    rw [hm']; exact idx_header_append _ _ _ _
  have hasn : asn2 m = .ok (a1.toNat * 256 + a2.toNat) := by
    simp only [asn2, ix 1, ix 2]; rfl
  refine ⟨?_, ?_, hasn, ?_, ?_, ?_, hparams, hcaps, ?_, ?_, ?_, ?_, ?_⟩
  · rw [hm']; exact length_header_append n hn t _
  · rw [version, ix 0]; rfl
  · simp only [holdtime, ix 3, ix 4]; rfl
  · have e : m = (header n t ++ [v, a1, a2, h1, h2]) ++ (i0 :: i1 :: i2 :: i3 :: opl :: ps) := by rw [hm]; simp
    have hl : 28 ≤ m.length := by rw [hm]; simp [header_length]; omega
    rw [identifier, slice_of_le ⟨by omega, hl⟩, e, List.drop_left' (by simp [header_length])]
    rfl
  · rw [optParmLen, ix 9]; rfl
  · simp only [myAsn, hcaps, Outcome.bind_ok, lazyFind_noPanic]
    cases cl.find? (fun c => c.code.toNat == 65) <;> simp [hasn]
  · have : (cl.any fun c => c.code.toNat == 65) = (cl.find? fun c => c.code.toNat == 65).isSome :=
      Bool.eq_iff_iff.mpr (by rw [List.any_eq_true, List.find?_isSome])
    simp only [fourOctetCapable, hcaps, Outcome.bind_ok, lazyFind_noPanic, this]
    cases cl.find? (fun c => c.code.toNat == 65) <;> rfl
  · simp [multiprotocolIds, hcaps, mpLoop_spec _ hg]
  · simp [addpathFamiliesVec, hcaps]
  · simp only [softwareVersion, hcaps, Outcome.bind_ok, lazyFind_noPanic]
    cases cl.find? (fun c => c.code.toNat == 75) <;> rfl

end Rc.Open
