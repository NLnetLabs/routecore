/-
Lemmas for `Rc.Thm.C01.decode_encode`, part 3: the sections – conventional and
multiprotocol NLRI, ADD-PATH flags per section, next hops, End-of-RIB.
-/
import Rc.Lemmas.UpdateFields

namespace Rc.Upd
open Rc Rc.Nlri Rc.Attr Rc.AsPath

variable {cfg : Cfg} {c : TContent} {m : Msg}

theorem encNlris_nil_iff (f : Fam) (ap : Bool) (l : List (Nat × f.Val)) (hw : NlrisWf f ap l) (b : Bytes)
    (he : encNlris f ap l = .ok b) : b = [] ↔ l = [] := by
  obtain ⟨b', hb', hi, -⟩ := nlris_reported f ap l hw
  cases he.symm.trans hb'
  rw [← famItems_nil_iff f ap b, hi]
  cases ap <;> simp [reportNlris]

theorem code14_reach {a : AttrC} (hk : a.kindOk cfg) (hc : a.code = 14) :
    (∃ fl f nh rsv nlri, a = .reach fl f nh rsv nlri) ∨ (∃ fl k nh rsv body, a = .reachU fl k nh rsv body) := by
  cases a with
  | typed fl t => cases t <;> cases hc
  | path fl as4 ss => cases as4 <;> cases hc
  | raw fl tc v => exact absurd hc hk.2.1
  | reach fl f nh rsv nlri => exact .inl ⟨fl, f, nh, rsv, nlri, rfl⟩
  | reachU fl k nh rsv body => exact .inr ⟨fl, k, nh, rsv, body, rfl⟩
  | _ => cases hc

theorem code15_unreach {a : AttrC} (hk : a.kindOk cfg) (hc : a.code = 15) :
    (∃ fl f nlri, a = .unreach fl f nlri) ∨ (∃ fl k body, a = .unreachU fl k body) := by
  cases a with
  | typed fl t => cases t <;> cases hc
  | path fl as4 ss => cases as4 <;> cases hc
  | raw fl tc v => exact absurd hc hk.2.2
  | unreach fl f nlri => exact .inl ⟨fl, f, nlri, rfl⟩
  | unreachU fl k body => exact .inr ⟨fl, k, body, rfl⟩
  | _ => cases hc

theorem reach_value {fl : UInt8} {f : Fam} {nh : Bytes} {rsv : UInt8} {nlri : List (Nat × f.Val)}
    (hw : NlrisWf f (cfg.rx (famCode f)) nlri) :
    ∃ b, encNlris f (cfg.rx (famCode f)) nlri = .ok b ∧
      (AttrC.reach fl f nh rsv nlri).valueD cfg = mpReachValue (famCode f) nh rsv b ∧
      famItems f (cfg.rx (famCode f)) b = (reportNlris f (cfg.rx (famCode f)) nlri, true) := by
  obtain ⟨b, hb, hi, _⟩ := nlris_reported f (cfg.rx (famCode f)) nlri hw
  exact ⟨b, hb, by simp only [AttrC.valueD, AttrC.value, hb], hi⟩

theorem unreach_value {fl : UInt8} {f : Fam} {nlri : List (Nat × f.Val)}
    (hw : NlrisWf f (cfg.rx (famCode f)) nlri) :
    ∃ b, encNlris f (cfg.rx (famCode f)) nlri = .ok b ∧
      (AttrC.unreach fl f nlri).valueD cfg = unreachValue f b ∧
      famItems f (cfg.rx (famCode f)) b = (reportNlris f (cfg.rx (famCode f)) nlri, true) := by
  obtain ⟨b, hb, hi, _⟩ := nlris_reported f (cfg.rx (famCode f)) nlri hw
  exact ⟨b, hb, by simp only [AttrC.valueD, AttrC.value, hb], hi⟩

theorem reachU_value (fl : UInt8) (k : Nat × Nat) (nh : Bytes) (rsv : UInt8) (body : Bytes) :
    (AttrC.reachU fl k nh rsv body).valueD cfg = mpReachValue k nh rsv body := rfl

theorem unreachU_value (fl : UInt8) (k : Nat × Nat) (body : Bytes) :
    (AttrC.unreachU fl k body).valueD cfg = mpUnreachValue k body := rfl

theorem nlriTy_unsupported {k : Nat × Nat} (hk : famOf k = none) (ap : Bool) :
    nlriTy k ap = .unsupported k.1 k.2 := by
  simp only [nlriTy, hk]

namespace Ctx

theorem wd_nil (h : Ctx cfg c m) : m.wd = [] ↔ c.wd = [] := encNlris_nil_iff _ _ _ h.wf.1 _ h.wd
theorem ann_nil (h : Ctx cfg c m) : m.ann = [] ↔ c.ann = [] := encNlris_nil_iff _ _ _ h.wf.2.1 _ h.ann

theorem attrs_nil (h : Ctx cfg c m) : m.attrs = [] ↔ c.attrs = [] := by
  rw [h.attrs, encRaws_eq_nil, TContent.raws, List.map_eq_nil_iff]

theorem find_reach (h : Ctx cfg c m) {a : AttrC} (hf : c.find 14 = some a) :
    (∃ fl f nh rsv nlri, a = .reach fl f nh rsv nlri) ∨ (∃ fl k nh rsv body, a = .reachU fl k nh rsv body) :=
  code14_reach (h.kind a (TContent.find_mem hf).1) (TContent.find_mem hf).2

theorem find_unreach (h : Ctx cfg c m) {a : AttrC} (hf : c.find 15 = some a) :
    (∃ fl f nlri, a = .unreach fl f nlri) ∨ (∃ fl k body, a = .unreachU fl k body) :=
  code15_unreach (h.kind a (TContent.find_mem hf).1) (TContent.find_mem hf).2

/-- the AFI/SAFI that decides a section's ADD-PATH flag (taken from the last
attribute of the type) is the one of the first attribute of that type -/
theorem mpKey (h : Ctx cfg c m) (code : Nat) (hcode : code = 14 ∨ code = 15) :
    lastMp code (c.raws cfg) none = (c.find code).bind fun a => (afiSafi (a.valueD cfg)).map (·.1) := by
  cases hf : c.find code with
  | none =>
    refine lastMp_none code _ none fun x hx => ?_
    obtain ⟨a, ha, rfl⟩ := List.mem_map.mp hx
    have := List.find?_eq_none.mp hf a ha
    simpa [AttrC.rawOf, a.code_toNat] using this
  | some a =>
    obtain ⟨hm, hc⟩ := TContent.find_mem hf
    refine Raw.mp_flag_of_unique code (c.raws cfg) (AttrC.rawOf cfg a) (fun x hx hxc => ?_)
      (by rw [h.first, hf]; rfl)
    obtain ⟨b, hb, rfl⟩ := List.mem_map.mp hx
    have hbc : b.code = code := by simpa [AttrC.rawOf, b.code_toNat] using hxc
    rw [h.wf.2.2.2 b hb a hm (by rw [hbc, hc]) (by rw [hbc]; exact hcode)]

theorem mpAttr_none (h : Ctx cfg c m) (code : Nat) (hf : c.find code = none) : m.mpAttr code = .ok none :=
  Raw.mpAttr_absent m (c.raws cfg) h.attrs (raws_wf h.wf) code (by rw [h.first, hf]; rfl)

theorem mpAttr_some (h : Ctx cfg c m) (code : Nat) (a : AttrC) (hf : c.find code = some a)
    (x : (Nat × Nat) × Bytes) (hx : afiSafi (a.valueD cfg) = some x) : m.mpAttr code = .ok (some x) :=
  Raw.mpAttr_enc m (c.raws cfg) h.attrs (raws_wf h.wf) code (AttrC.rawOf cfg a) (by rw [h.first, hf]; rfl) x hx

theorem mpAttr_reachU (h : Ctx cfg c m) {fl : UInt8} {k : Nat × Nat} {nh : Bytes} {rsv : UInt8} {body : Bytes}
    (hf : c.find 14 = some (.reachU fl k nh rsv body)) :
    m.mpAttr 14 = .ok (some (k, UInt8.ofNat nh.length :: (nh ++ (rsv :: body)))) := by
  have hk := h.kind _ (TContent.find_mem hf).1
  exact h.mpAttr_some 14 _ hf _ (afiSafi_mpReach k hk.2.1 hk.2.2.1 nh rsv body)

theorem mpAttr_unreachU (h : Ctx cfg c m) {fl : UInt8} {k : Nat × Nat} {body : Bytes}
    (hf : c.find 15 = some (.unreachU fl k body)) : m.mpAttr 15 = .ok (some (k, body)) := by
  have hk := h.kind _ (TContent.find_mem hf).1
  exact h.mpAttr_some 15 _ hf _ (afiSafi_mpUnreach k hk.2.1 hk.2.2 body)

/-- The first MP_REACH_NLRI of the content as the accessors find it: what follows AFI/SAFI, and the
section's ADD-PATH flag – the session's setting for the attribute's (AFI, SAFI), also for an unsupported one
(a session may have been configured with ADD-PATH for it; no accessor reads items by it). -/
theorem reach_cases (h : Ctx cfg c m) :
    (c.find 14 = none ∧ m.mpAttr 14 = .ok none) ∨
    (∃ fl f nh rsv nlri b, c.find 14 = some (.reach fl f nh rsv nlri) ∧ nh.length < 256 ∧
      (nhSpec f nh).isSome = true ∧
      famItems f (cfg.rx (famCode f)) b = (reportNlris f (cfg.rx (famCode f)) nlri, true) ∧
      m.mpAttr 14 = .ok (some (famCode f, UInt8.ofNat nh.length :: (nh ++ (rsv :: b)))) ∧
      m.ppi.mpReach = cfg.rx (famCode f)) ∨
    (∃ fl k nh rsv body, c.find 14 = some (.reachU fl k nh rsv body) ∧ famOf k = none ∧ nh.length < 256 ∧
      m.mpAttr 14 = .ok (some (k, UInt8.ofNat nh.length :: (nh ++ (rsv :: body)))) ∧
      m.ppi.mpReach = cfg.rx k) := by
  have hflag : m.ppi.mpReach = (Ppi.ofCfg cfg ((c.find 14).bind fun a => (afiSafi (a.valueD cfg)).map (·.1))
      none).mpReach := by rw [h.ppi, h.mpKey 14 (.inl rfl)]; rfl
  cases hf : c.find 14 with
  | none => exact .inl ⟨rfl, h.mpAttr_none 14 hf⟩
  | some a =>
    rw [hf] at hflag
    have hk := h.kind a (TContent.find_mem hf).1
    rcases h.find_reach hf with ⟨fl, f, nh, rsv, nlri, rfl⟩ | ⟨fl, k, nh, rsv, body, rfl⟩
    · obtain ⟨b, hb, hv, hi⟩ := reach_value (fl := fl) (nh := nh) (rsv := rsv) hk.1
      have hs := afiSafi_mpReach_famCode f nh rsv b
      rw [← hv] at hs
      refine .inr (.inl ⟨fl, f, nh, rsv, nlri, b, rfl, hk.2.1, hk.2.2, hi, h.mpAttr_some 14 _ hf _ hs, ?_⟩)
      rw [hflag, Option.bind_some, hs]; rfl
    · have hs := afiSafi_mpReach k hk.2.1 hk.2.2.1 nh rsv body
      refine .inr (.inr ⟨fl, k, nh, rsv, body, rfl, hk.1, hk.2.2.2, h.mpAttr_some 14 _ hf _ hs, ?_⟩)
      rw [hflag, Option.bind_some, reachU_value, hs]; rfl

/-- the same for the first MP_UNREACH_NLRI; its NLRI octets are empty exactly when it withdraws nothing -/
theorem unreach_cases (h : Ctx cfg c m) :
    (c.find 15 = none ∧ m.mpAttr 15 = .ok none) ∨
    (∃ fl f nlri b, c.find 15 = some (.unreach fl f nlri) ∧ (b = [] ↔ nlri = []) ∧
      famItems f (cfg.rx (famCode f)) b = (reportNlris f (cfg.rx (famCode f)) nlri, true) ∧
      m.mpAttr 15 = .ok (some (famCode f, b)) ∧ m.ppi.mpUnreach = cfg.rx (famCode f)) ∨
    (∃ fl k body, c.find 15 = some (.unreachU fl k body) ∧ famOf k = none ∧
      m.mpAttr 15 = .ok (some (k, body)) ∧ m.ppi.mpUnreach = cfg.rx k) := by
  have hflag : m.ppi.mpUnreach = (Ppi.ofCfg cfg none
      ((c.find 15).bind fun a => (afiSafi (a.valueD cfg)).map (·.1))).mpUnreach := by
    rw [h.ppi, h.mpKey 15 (.inr rfl)]; rfl
  cases hf : c.find 15 with
  | none => exact .inl ⟨rfl, h.mpAttr_none 15 hf⟩
  | some a =>
    rw [hf] at hflag
    have hk := h.kind a (TContent.find_mem hf).1
    rcases h.find_unreach hf with ⟨fl, f, nlri, rfl⟩ | ⟨fl, k, body, rfl⟩
    · obtain ⟨b, hb, hv, hi⟩ := unreach_value (fl := fl) hk
      have hs := afiSafi_unreach f b
      rw [← hv] at hs
      refine .inr (.inl ⟨fl, f, nlri, b, rfl, encNlris_nil_iff f _ nlri hk b hb, hi,
        h.mpAttr_some 15 _ hf _ hs, ?_⟩)
      rw [hflag, Option.bind_some, hs]; rfl
    · have hs := afiSafi_mpUnreach k hk.2.1 hk.2.2 body
      refine .inr (.inr ⟨fl, k, body, rfl, hk.1, h.mpAttr_some 15 _ hf _ hs, ?_⟩)
      rw [hflag, Option.bind_some, unreachU_value, hs]; rfl

theorem mpAnn_spec (h : Ctx cfg c m) : ∃ x, m.mpAnn = .ok x ∧
    (x.map fun p => (p.1, enumItems p.1 p.2)) = (c.reachOf cfg).map fun p => (p.1, okItems p.2) := by
  rcases h.reach_cases with ⟨hf, ha⟩ | ⟨fl, f, nh, rsv, nlri, b, hf, hnh, -, hi, ha, hfl⟩ |
    ⟨fl, k, nh, rsv, body, hf, hk, hnh, ha, -⟩
  · exact ⟨none, by rw [Msg.mpAnn, ha], by rw [TContent.reachOf, hf]; rfl⟩
  · refine ⟨some (.known f (cfg.rx (famCode f)), b), ?_, ?_⟩
    · simp only [Msg.mpAnn, ha, skipNextHop_mp nh rsv b hnh, Raw.nlriTy_famCode, hfl]
    · simp only [TContent.reachOf, hf, Option.map_some, enumItems, hi, reportNlris_eq, okItems]
  · refine ⟨some (.unsupported k.1 k.2, body), ?_, ?_⟩
    · simp only [Msg.mpAnn, ha, skipNextHop_mp nh rsv body hnh, nlriTy_unsupported hk]
    · simp only [TContent.reachOf, hf, Option.map_some, enumItems, okItems, List.map_nil]

theorem mpWd_spec (h : Ctx cfg c m) : ∃ x, m.mpWd = .ok x ∧
    (x.map fun p => (p.1, enumItems p.1 p.2)) = (c.unreachOf cfg).map fun p => (p.1, okItems p.2) := by
  rcases h.unreach_cases with ⟨hf, ha⟩ | ⟨fl, f, nlri, b, hf, -, hi, ha, hfl⟩ | ⟨fl, k, body, hf, hk, ha, -⟩
  · exact ⟨none, by rw [Msg.mpWd, ha], by rw [TContent.unreachOf, hf]; rfl⟩
  · refine ⟨some (.known f (cfg.rx (famCode f)), b), ?_, ?_⟩
    · simp only [Msg.mpWd, ha, Raw.nlriTy_famCode, hfl]
    · simp only [TContent.unreachOf, hf, Option.map_some, enumItems, hi, reportNlris_eq, okItems]
  · refine ⟨some (.unsupported k.1 k.2, body), ?_, ?_⟩
    · simp only [Msg.mpWd, ha, nlriTy_unsupported hk]
    · simp only [TContent.unreachOf, hf, Option.map_some, enumItems, okItems, List.map_nil]

/-- the octets `mp_withdrawals()` runs over are empty exactly when the content's
first MP_UNREACH_NLRI holds nothing after AFI/SAFI – for every family -/
theorem mpWd_empty (h : Ctx cfg c m) (ty : NlriTy) (b : Bytes) (hm : m.mpWd = .ok (some (ty, b))) :
    b.isEmpty = c.unreachEmpty := by
  rcases h.unreach_cases with ⟨hf, ha⟩ | ⟨fl, f, nlri, b', hf, hnil, -, ha, -⟩ | ⟨fl, k, body, hf, -, ha, -⟩ <;>
    simp only [Msg.mpWd, ha, Outcome.ok.injEq, Option.some.injEq, Prod.mk.injEq, reduceCtorEq] at hm
  · obtain ⟨-, rfl⟩ := hm
    rw [TContent.unreachEmpty, hf, Bool.eq_iff_iff, List.isEmpty_iff, List.isEmpty_iff]
    exact hnil
  · obtain ⟨-, rfl⟩ := hm
    rw [TContent.unreachEmpty, hf]

theorem mpAnn (h : Ctx cfg c m) : withItems m.mpAnn = (expected cfg c).mpAnn := by
  obtain ⟨x, hx, hi⟩ := h.mpAnn_spec
  rw [hx]
  exact congrArg Outcome.ok hi

theorem mpWd (h : Ctx cfg c m) : withItems m.mpWd = (expected cfg c).mpWd := by
  obtain ⟨x, hx, hi⟩ := h.mpWd_spec
  rw [hx]
  exact congrArg Outcome.ok hi

theorem convWd_expected (h : Ctx cfg c m) : m.convWd = (expected cfg c).convWd := by
  rw [h.convWd, reportNlris_eq]; rfl

theorem convAnn_expected (h : Ctx cfg c m) : m.convAnn = (expected cfg c).convAnn := by
  rw [h.convAnn, reportNlris_eq]; rfl

theorem itemsOfOpt_spec {x : Option (NlriTy × Bytes)} {o : Option (NlriTy × List AnyNlri)}
    (hi : (x.map fun p => (p.1, enumItems p.1 p.2)) = o.map fun p => (p.1, okItems p.2)) :
    itemsOfOpt x = okItems ((o.map (·.2)).getD []) := by
  rcases x with _ | ⟨ty, bs⟩ <;> rcases o with _ | ⟨ty', l⟩ <;> try cases hi
  · rfl
  · exact (Prod.mk.inj (Option.some.inj hi)).2

theorem announcements (h : Ctx cfg c m) : m.announcements = (expected cfg c).announcements := by
  obtain ⟨x, hx, hi⟩ := h.mpAnn_spec
  show _ = Outcome.ok (okItems (_ ++ _))
  simp only [Msg.announcements, hx, itemsOfOpt_spec hi, h.convAnn, reportNlris_eq, okItems, List.map_append, Bool.and_self]

theorem withdrawals (h : Ctx cfg c m) : m.withdrawals = (expected cfg c).withdrawals := by
  obtain ⟨x, hx, hi⟩ := h.mpWd_spec
  show _ = Outcome.ok (okItems (_ ++ _))
  simp only [Msg.withdrawals, hx, itemsOfOpt_spec hi, h.convWd, reportNlris_eq, okItems, List.map_append, Bool.and_self]

theorem annVec (h : Ctx cfg c m) : m.annVec = (expected cfg c).annVec := by
  obtain ⟨x, hx, hi⟩ := h.mpAnn_spec
  show _ = Outcome.ok (_ ++ _)
  simp only [Msg.annVec, hx, itemsOfOpt_spec hi, h.convAnn, reportNlris_eq, okItems, ← List.map_append,
    collectResult_map_ok]

theorem wdVec (h : Ctx cfg c m) : m.wdVec = (expected cfg c).wdVec := by
  obtain ⟨x, hx, hi⟩ := h.mpWd_spec
  show _ = Outcome.ok (_ ++ _)
  simp only [Msg.wdVec, hx, itemsOfOpt_spec hi, h.convWd, reportNlris_eq, okItems, ← List.map_append,
    collectResult_map_ok]

theorem afiSafis (h : Ctx cfg c m) : m.afiSafis = (expected cfg c).afiSafis := by
  obtain ⟨x, hx, hi⟩ := h.mpAnn_spec
  obtain ⟨y, hy, hj⟩ := h.mpWd_spec
  have e1 := congrArg (Option.map (·.1)) hi
  have e2 := congrArg (Option.map (·.1)) hj
  simp only [Option.map_map, Function.comp_def] at e1 e2
  show _ = Outcome.ok (_, _, _, _)
  simp only [Msg.afiSafis, hx, hy, okFlatten, e1, e2, h.conv, ne_eq, h.wd_nil, h.ann_nil]

theorem typedAnn (h : Ctx cfg c m) (g : Fam) :
    m.typedAnn g (m.typeAp true g) = (expected cfg c).typedAnn g := by
  show _ = typedSpec (anyNlris .v4u (cfg.rx (1, 1)) c.ann) (c.reachOf cfg) g
  simp only [Msg.typedAnn, Msg.typeAp, typedSpec, ↓reduceIte, ne_eq, anyNlris_nil_iff, ← h.ann_nil]
  by_cases hc : g = .v4u ∧ ¬ m.ann = []
  · rw [if_pos hc, if_pos hc, if_pos hc, hc.1, show famItems .v4u m.ppi.conv m.ann = _ from h.convAnn, reportNlris_eq]
    rfl
  · rw [if_neg hc, if_neg hc, if_neg hc]
    rcases h.reach_cases with ⟨hf, ha⟩ | ⟨fl, f, nh, rsv, nlri, b, hf, hnh, -, hi, ha, hfl⟩ |
      ⟨fl, k, nh, rsv, body, hf, hk, -, ha, -⟩
    · rw [ha, TContent.reachOf, hf]
    · simp only [ha, famOf_famCode, Option.some.injEq, TContent.reachOf, hf]
      by_cases hfg : f = g
      · subst hfg
        simp only [↓reduceIte, skipNextHop_mp nh rsv b hnh, hfl, hi, reportNlris_eq, okItems]
      · simp only [hfg, ↓reduceIte]
    · -- an unsupported (AFI, SAFI) is no family's: `typed_announcements::<T>` is `Ok(None)` for every `T`
      simp only [ha, hk, reduceCtorEq, ↓reduceIte, TContent.reachOf, hf]

theorem typedWd (h : Ctx cfg c m) (g : Fam) :
    m.typedWd g (m.typeAp false g) = (expected cfg c).typedWd g := by
  show _ = typedSpec (anyNlris .v4u (cfg.rx (1, 1)) c.wd) (c.unreachOf cfg) g
  simp only [Msg.typedWd, Msg.typeAp, typedSpec, Bool.false_eq_true, ↓reduceIte, ne_eq, anyNlris_nil_iff, ← h.wd_nil]
  by_cases hc : g = .v4u ∧ ¬ m.wd = []
  · rw [if_pos hc, if_pos hc, if_pos hc, hc.1, show famItems .v4u m.ppi.conv m.wd = _ from h.convWd, reportNlris_eq]
    rfl
  · rw [if_neg hc, if_neg hc, if_neg hc]
    rcases h.unreach_cases with ⟨hf, ha⟩ | ⟨fl, f, nlri, b, hf, -, hi, ha, hfl⟩ | ⟨fl, k, body, hf, hk, ha, -⟩
    · rw [ha, TContent.unreachOf, hf]
    · simp only [ha, famOf_famCode, Option.some.injEq, TContent.unreachOf, hf]
      by_cases hfg : f = g
      · subst hfg
        simp only [↓reduceIte, hfl, hi, reportNlris_eq, okItems]
      · simp only [hfg, ↓reduceIte]
    · simp only [ha, hk, reduceCtorEq, ↓reduceIte, TContent.unreachOf, hf]

theorem nextHopTuple (h : Ctx cfg c m) :
    m.mpNextHopTuple = match c.reachNh with
      | some (k, .ok nh) => .ok (some (k, nh))
      | some (_, _) => .err
      | none => .ok none := by
  rcases h.reach_cases with ⟨hf, ha⟩ | ⟨fl, f, nh, rsv, nlri, b, hf, hnh, hs, -, ha, -⟩ |
    ⟨fl, k, nh, rsv, body, hf, hk, -, ha, -⟩
  · rw [Msg.mpNextHopTuple, ha, TContent.reachNh, hf]
  · obtain ⟨x, hx⟩ := Option.isSome_iff_exists.mp hs
    simp only [Msg.mpNextHopTuple, ha, famOf_famCode, Raw.next_hop_reported f nh (rsv :: b) x hnh hx, TContent.reachNh,
      hf, nhOf, hx]
  · -- `NextHop::parse` has no arm for `AfiSafiType::Unsupported`
    simp only [Msg.mpNextHopTuple, ha, hk, nhParse, TContent.reachNh, hf]

theorem mpNextHop (h : Ctx cfg c m) : m.mpNextHop = (expected cfg c).mpNextHop := by
  show _ = match c.reachNh with | some (_, .ok nh) => Outcome.ok (some nh) | some (_, _) => .err | none => .ok none
  rw [Msg.mpNextHop, h.nextHopTuple]
  rcases c.reachNh with _ | ⟨f, _ | _ | _⟩ <;> rfl

theorem findNextHop_spec (m : Msg) (r : Option ((Nat × Nat) × Outcome NextHop)) (conv : Option NextHop)
    (ht : m.mpNextHopTuple = match r with
      | some (k, .ok nh) => .ok (some (k, nh))
      | some (_, _) => .err
      | none => .ok none)
    (hc : m.convNextHop = .ok conv) (k : Nat × Nat) : m.findNextHop k = findNextHopSpec r conv k := by
  unfold Msg.findNextHop findNextHopSpec
  rw [ht, hc]
  rcases r with _ | ⟨f, nh | _ | _⟩ <;> by_cases hk : k = (1, 1) <;> cases conv <;>
    simp only [hk, ↓reduceIte, Msg.findNextHop.convOr, ne_eq, ite_not]
  all_goals by_cases hf : f = (1, 1) <;> simp only [hf, ↓reduceIte, Msg.findNextHop.convOr]

theorem findNextHop (h : Ctx cfg c m) : m.findNextHop = (expected cfg c).findNextHop :=
  funext (findNextHop_spec m c.reachNh _ h.nextHopTuple h.convNextHop)

theorem lengths (h : Ctx cfg c m) : m.length = (expected cfg c).length ∧ m.wdLen = (expected cfg c).wdLen ∧
    m.attrLen = (expected cfg c).attrLen := by
  simp only [expected, Msg.length, Msg.wdLen, Msg.attrLen, h.wd, h.ann, h.attrs, TContent.raws]
  exact ⟨trivial, trivial, trivial⟩

theorem hasMpNlri (h : Ctx cfg c m) : m.hasMpNlri = .ok (c.find 14).isSome := by
  rw [Raw.hasMpNlri_enc m _ h.attrs (raws_wf h.wf), h.first]
  cases c.find 14 <;> rfl

theorem length_23 (h : Ctx cfg c m) : m.length = 23 ↔ (c.wd = [] ∧ c.attrs = [] ∧ c.ann = []) := by
  rw [Raw.length_23, h.wd_nil, h.attrs_nil, h.ann_nil]

theorem isEor (h : Ctx cfg c m) : m.isEor = (expected cfg c).isEor := by
  obtain ⟨y, hy, hj⟩ := h.mpWd_spec
  show _ = ite _ _ _
  unfold Msg.isEor
  by_cases h23 : m.length = 23
  · rw [if_pos h23, if_pos (h.length_23.mp h23)]
  · rw [if_neg h23, if_neg (fun x => h23 (h.length_23.mpr x)), hy]
    rcases y with _ | ⟨ty, b⟩
    · rw [Option.map_eq_none_iff.mp hj.symm]
    · -- "no withdrawn routes" is read off the octets, for the 13 families and for any other
      obtain ⟨⟨ty', l⟩, ho, hq⟩ := Option.map_eq_some_iff.mp hj.symm
      obtain ⟨rfl, -⟩ := Prod.mk.inj hq
      rw [ho]
      show (if _ then _ else _) = if _ then _ else _
      rw [h.mpWd_empty _ b hy, h.hasMpNlri]
      simp only [List.isEmpty_iff, h.wd_nil, h.ann_nil, Bool.and_eq_true]
      cases c.find 14 <;> simp [and_assoc]

end Ctx

end Rc.Upd
