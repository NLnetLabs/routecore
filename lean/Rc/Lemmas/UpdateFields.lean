/-
Lemmas for `Rc.Thm.C01.decode_encode`, part 2: field by field, what the decoder
model reports about a message that is the encoding of a typed content.
-/
import Rc.Lemmas.UpdateTyped

namespace Rc.Upd
open Rc Rc.Nlri Rc.Attr Rc.AsPath

/-- the attributes of the content as they go on the wire -/
def TContent.raws (cfg : Cfg) (c : TContent) : List RawAttr := c.attrs.map (AttrC.rawOf cfg)

/-- what parsing the encoding of `c` yields: the facts of `Raw.decode_encode_partial`,
shared by the field lemmas below -/
structure Ctx (cfg : Cfg) (c : TContent) (m : Msg) : Prop where
  wf : WfContent cfg c
  wd : encNlris .v4u (cfg.rx (1, 1)) c.wd = .ok m.wd
  ann : encNlris .v4u (cfg.rx (1, 1)) c.ann = .ok m.ann
  attrs : m.attrs = encRaws (c.raws cfg)
  pa : m.pathAttributes = ((c.raws cfg).map (reportAttr cfg.four), true)
  ppi : m.ppi = Ppi.ofCfg cfg (lastMp 14 (c.raws cfg) none) (lastMp 15 (c.raws cfg) none)
  convWd : m.convWd = (reportNlris .v4u (cfg.rx (1, 1)) c.wd, true)
  convAnn : m.convAnn = (reportNlris .v4u (cfg.rx (1, 1)) c.ann, true)

variable {cfg : Cfg} {c : TContent} {m : Msg}

theorem reportNlris_eq (f : Fam) (ap : Bool) (l : List (Nat × f.Val)) :
    reportNlris f ap l = (anyNlris f ap l).map Outcome.ok := by
  cases ap <;> simp [reportNlris, anyNlris, List.map_map, Function.comp_def]

theorem anyNlris_nil_iff (f : Fam) (ap : Bool) (l : List (Nat × f.Val)) : anyNlris f ap l = [] ↔ l = [] := by
  cases ap <;> simp [anyNlris]

theorem raws_wf (hw : WfContent cfg c) : ∀ r ∈ c.raws cfg, r.wf = true := by
  intro r hr
  obtain ⟨a, ha, rfl⟩ := List.mem_map.mp hr
  exact (hw.2.2.1 a ha).2

theorem TContent.find_mem {k : Nat} {a : AttrC} (hf : c.find k = some a) : a ∈ c.attrs ∧ a.code = k :=
  ⟨List.mem_of_find?_eq_some hf, by simpa using List.find?_some hf⟩

theorem takeN_be32 (n : Nat) : takeN 4 (be32 n) = some (be32 n, []) := rfl

theorem commItems_recs (k : Nat) (hk : 0 < k) (recs : List Bytes) (hl : ∀ r ∈ recs, r.length = k) :
    commItems k recs.flatten = okItems recs := by
  have : recs.flatten.length = recs.length * k := by
    rw [List.length_flatten, List.map_congr_left hl, List.map_const', List.sum_replicate_nat]
  exact Raw.comm_records k hk recs hl _ (by rw [this]; exact Nat.le_succ_of_le (Nat.le_mul_of_pos_right _ hk))

theorem recsOk_iff (k : Nat) (cs : List Bytes) : recsOk k cs = true ↔ ∀ r ∈ cs, r.length = k := by
  simp [recsOk]

theorem collectResult_map_ok {α : Type} (l : List α) : collectResult (l.map Outcome.ok) = .ok l :=
  (collectResult_ok _ l).mpr rfl

theorem commPart_obs (x : Option (List Bytes)) : commPart (commObs x) = (optList x).map Outcome.ok := by
  cases x <;> rfl

theorem asPathOf_of_valid {w : Bool} {v : Bytes} {H : HopPath} (hv : pathValid w v = true)
    (hp : parsePath w v = .ok H) : asPathOf w v = .ok (v, H) := by
  unfold parsePath at hp
  unfold asPathOf
  rw [check_of_pathValid hv] at hp ⊢
  simp only [hp]

namespace Ctx

theorem four (h : Ctx cfg c m) : m.ppi.four = cfg.four := by rw [h.ppi]; rfl
theorem conv (h : Ctx cfg c m) : m.ppi.conv = cfg.rx (1, 1) := by rw [h.ppi]; rfl

theorem kind (h : Ctx cfg c m) : ∀ a ∈ c.attrs, a.kindOk cfg := fun a ha => (h.wf.2.2.1 a ha).1

theorem first (_h : Ctx cfg c m) (k : Nat) : firstWith k (c.raws cfg) = (c.find k).map (AttrC.rawOf cfg) :=
  firstWith_map cfg k c.attrs

theorem get (h : Ctx cfg c m) (k : Nat) : m.get k = (c.find k).map (AttrC.wire cfg) := by
  simp only [Msg.get, h.pa, Raw.getAttr_report, h.first]
  cases hf : c.find k with
  | none => rfl
  | some a =>
    have := (attr_reported cfg a (h.kind a (TContent.find_mem hf).1)).1
    simp [this]

theorem typedValue (h : Ctx cfg c m) (k : Nat) :
    m.typedValue k = (c.find k).bind fun a => if (a.ownedT cfg).isSome then some (a.valueD cfg) else none := by
  simp only [Msg.typedValue, h.get]
  cases hf : c.find k with
  | none => rfl
  | some a =>
    simp only [Option.map_some, AttrC.wire, Option.bind_some]
    cases a.ownedT cfg <;> simp

/-- what the getters of a typed kind's code `k` (other than the two AS paths) work on: nothing, or the
value octets of the content's typed value of that code in the session's ASN width -/
theorem typedOf_cases (h : Ctx cfg c m) {k : Nat} (hk : (canonicalFlags k).isSome = true ∧ k ≠ 2 ∧ k ≠ 17) :
    (c.typedOf k = none ∧ m.typedValue k = none) ∨
    ∃ t v, c.typedOf k = some t ∧ t.code = k ∧ WfAttrW t = true ∧ (cfg.four = false → narrowOk t = true) ∧
      Upd.typedValue cfg.four t = .ok v ∧ m.typedValue k = some v := by
  rw [h.typedValue, TContent.typedOf]
  cases hf : c.find k with
  | none => exact .inl ⟨rfl, rfl⟩
  | some a =>
    obtain ⟨hm, hc⟩ := TContent.find_mem hf
    have hkind := h.kind a hm
    cases a with
    | typed fl t =>
      obtain ⟨v, hv, _⟩ := typed_spec cfg.four t hkind.1 hkind.2
      refine .inr ⟨t, v, rfl, hc, hkind.1, hkind.2, hv, ?_⟩
      simp only [Option.bind_some, AttrC.ownedT, Option.isSome_some, if_true, AttrC.valueD, AttrC.value, hv]
    | path fl as4 ss => cases as4 <;> first | exact absurd hc.symm hk.2.1 | exact absurd hc.symm hk.2.2
    | raw fl tc v => rw [← hc, show (AttrC.raw fl tc v).code = tc.toNat from rfl, hkind.1] at hk; cases hk.1
    | _ => subst hc; cases hk.1

theorem typedOf_none (h : Ctx cfg c m) {k : Nat} (hf : c.find k = none) : c.typedOf k = none := by
  simp [TContent.typedOf, hf]

theorem origin (h : Ctx cfg c m) : m.origin = (expected cfg c).origin := by
  show _ = Outcome.ok _
  rcases h.typedOf_cases (k := 1) (by decide) with ⟨ht, hv⟩ | ⟨t, v, ht, hc, hw, -, hv, hm⟩
  · rw [Msg.origin, hv, ht]
  · rw [Msg.origin, hm, ht]
    cases t with
    | origin n =>
      cases hv
      simp only [rd8, UInt8.toNat_ofNat_of_lt' (of_decide_eq_true hw)]
    | _ => cases hc

theorem med (h : Ctx cfg c m) : m.med = (expected cfg c).med := by
  show _ = Outcome.ok _
  rcases h.typedOf_cases (k := 4) (by decide) with ⟨ht, hv⟩ | ⟨t, v, ht, hc, hw, -, hv, hm⟩
  · rw [Msg.med, hv, ht]
  · rw [Msg.med, hm, ht]
    cases t with
    | med n =>
      cases hv
      simp only [u32Value, rd32_be32' n (of_decide_eq_true hw), mapO]
    | _ => cases hc

theorem localPref (h : Ctx cfg c m) : m.localPref = (expected cfg c).localPref := by
  show _ = Outcome.ok _
  rcases h.typedOf_cases (k := 5) (by decide) with ⟨ht, hv⟩ | ⟨t, v, ht, hc, hw, -, hv, hm⟩
  · rw [Msg.localPref, hv, ht]
  · rw [Msg.localPref, hm, ht]
    cases t with
    | localPref n =>
      cases hv
      simp only [u32Value, rd32_be32' n (of_decide_eq_true hw), mapO]
    | _ => cases hc

theorem convNextHop (h : Ctx cfg c m) : m.convNextHop = (expected cfg c).convNextHop := by
  show _ = Outcome.ok _
  rcases h.typedOf_cases (k := 3) (by decide) with ⟨ht, hv⟩ | ⟨t, v, ht, hc, -, -, hv, hm⟩
  · rw [Msg.convNextHop, hv, ht]
  · rw [Msg.convNextHop, hm, ht]
    cases t with
    | nextHop a =>
      cases hv
      rfl
    | _ => cases hc

theorem aggregator (h : Ctx cfg c m) : m.aggregator = (expected cfg c).aggregator := by
  show _ = Outcome.ok _
  rcases h.typedOf_cases (k := 7) (by decide) with ⟨ht, hv⟩ | ⟨t, v, ht, hc, hw, hn, hv, hm⟩
  · rw [Msg.aggregator, hv, ht]
  · rw [Msg.aggregator, hm, ht, h.four]
    cases t with
    | aggregator asn addr =>
      cases hv
      have hasn : asn < 4294967296 := of_decide_eq_true (Bool.and_eq_true_iff.mp hw).1
      cases h4 : cfg.four with
      | true => simp only [aggrOf, ↓reduceIte, rd32_be32 asn hasn, takeN_be32]
      | false =>
        have hs : asn < 65536 := of_decide_eq_true (hn h4)
        simp only [aggrOf, Bool.false_eq_true, ↓reduceIte, rd16_be16 asn hs, takeN_be32]
    | _ => cases hc

theorem isAtomicAggregate (h : Ctx cfg c m) : m.isAtomicAggregate = (expected cfg c).isAtomicAggregate := by
  show (m.get 6).isSome = (c.find 6).isSome
  rw [h.get]
  cases c.find 6 <;> rfl

/-- the four community getters: the value octets of code `k` are its records, `n` octets each -/
theorem comms_recs (h : Ctx cfg c m) {k n : Nat} (hk : (canonicalFlags k).isSome = true ∧ k ≠ 2 ∧ k ≠ 17)
    (hn : 0 < n)
    (hrecs : ∀ t v, c.typedOf k = some t → t.code = k → WfAttrW t = true → Upd.typedValue cfg.four t = .ok v →
      ∃ recs, c.recsOf k = some recs ∧ v = recs.flatten ∧ ∀ r ∈ recs, r.length = n) :
    m.comms k n = commObs (c.recsOf k) := by
  rcases h.typedOf_cases hk with ⟨ht, hv⟩ | ⟨t, v, ht, hc, hw, -, hv, hm⟩
  · rw [Msg.comms, hv, TContent.recsOf, ht]; rfl
  · obtain ⟨recs, hr, rfl, hl⟩ := hrecs t v ht hc hw hv
    rw [Msg.comms, hm, hr]
    exact congrArg some (commItems_recs n hn recs hl)

theorem communities (h : Ctx cfg c m) : m.communities = (expected cfg c).communities :=
  h.comms_recs (k := 8) (n := 4) (by decide) (by decide) fun t v ht hc _ hv => by
    cases t with
    | communities l =>
      cases hv
      exact ⟨l.cs.map be32, by rw [TContent.recsOf, ht], by simp only [enc32, List.flatMap_def], by simp⟩
    | _ => cases hc

theorem extCommunities (h : Ctx cfg c m) : m.extCommunities = (expected cfg c).extCommunities :=
  h.comms_recs (k := 16) (n := 8) (by decide) (by decide) fun t v ht hc hw hv => by
    cases t with
    | extCommunities cs => cases hv; exact ⟨cs, by rw [TContent.recsOf, ht], rfl, (recsOk_iff 8 cs).mp hw⟩
    | _ => cases hc

theorem ipv6ExtCommunities (h : Ctx cfg c m) : m.ipv6ExtCommunities = (expected cfg c).ipv6ExtCommunities :=
  h.comms_recs (k := 25) (n := 20) (by decide) (by decide) fun t v ht hc hw hv => by
    cases t with
    | ipv6ExtCommunities cs => cases hv; exact ⟨cs, by rw [TContent.recsOf, ht], rfl, (recsOk_iff 20 cs).mp hw⟩
    | _ => cases hc

theorem largeCommunities (h : Ctx cfg c m) : m.largeCommunities = (expected cfg c).largeCommunities :=
  h.comms_recs (k := 32) (n := 12) (by decide) (by decide) fun t v ht hc hw hv => by
    cases t with
    | largeCommunities cs => cases hv; exact ⟨cs, by rw [TContent.recsOf, ht], rfl, (recsOk_iff 12 cs).mp hw⟩
    | _ => cases hc

theorem allCommunities (h : Ctx cfg c m) : m.allCommunities = (expected cfg c).allCommunities := by
  have e1 : m.communities = commObs (c.recsOf 8) := h.communities
  have e2 : m.extCommunities = commObs (c.recsOf 16) := h.extCommunities
  have e3 : m.ipv6ExtCommunities = commObs (c.recsOf 25) := h.ipv6ExtCommunities
  have e4 : m.largeCommunities = commObs (c.recsOf 32) := h.largeCommunities
  show _ = if optList (c.recsOf 8) ++ optList (c.recsOf 16) ++ optList (c.recsOf 25) ++ optList (c.recsOf 32) = []
    then Outcome.ok none else .ok (some _)
  simp only [Msg.allCommunities, Msg.allItems, e1, e2, e3, e4, commPart_obs, ← List.map_append, collectResult_map_ok]
  generalize optList (c.recsOf 8) ++ optList (c.recsOf 16) ++ optList (c.recsOf 25) ++ optList (c.recsOf 32) = all
  cases all <;> rfl

/-- `aspath()` (code 2, the session's width) and `as4path()` (code 17, four octets): `hval` and `hparse`
state what `validate` and `parse` do for that code -/
theorem pathGetter (h : Ctx cfg c m) {k : Nat} {w : Bool} {mk : HopPath → TypedAttr}
    (hval : ∀ v, validate k cfg.four v = some (pathValid w v))
    (hparse : ∀ v, parseValue k cfg.four v = match parsePath w v with | .ok H => .ok (mk H) | _ => .err)
    (hhops : ∀ (a : AttrC) H, a.ownedT cfg = some (mk H) → a.hopsT cfg = some H) :
    (match m.typedValue k with | some v => mapO some (asPathOf w v) | none => .ok none) =
      .ok ((c.find k).bind fun a => (a.hopsT cfg).map fun H => (a.valueD cfg, H)) := by
  rw [h.typedValue]
  cases hf : c.find k with
  | none => rfl
  | some a =>
    obtain ⟨hm, hc⟩ := TContent.find_mem hf
    have hs := (attr_spec cfg a (h.kind a hm)).2
    rw [hc, hval, hparse] at hs
    cases ho : a.ownedT cfg with
    | none => rw [ho] at hs; cases hs
    | some T =>
      rw [ho] at hs
      obtain ⟨hv, hp⟩ := hs
      split at hp
      · rename_i H hpp
        cases hp
        simp only [Option.bind_some, ho, Option.isSome_some, ↓reduceIte, hhops a H ho, Option.map_some,
          asPathOf_of_valid (Option.some.inj hv) hpp, mapO]
      · cases hp

theorem aspath (h : Ctx cfg c m) : m.aspath = (expected cfg c).aspath := by
  rw [Msg.aspath, h.four]
  exact h.pathGetter (k := 2) (mk := .asPath) (fun _ => rfl) (fun _ => rfl)
    (fun a H ho => by simp only [AttrC.hopsT, ho])

theorem as4path (h : Ctx cfg c m) : m.as4path = (expected cfg c).as4path :=
  h.pathGetter (k := 17) (mk := .as4Path) (fun _ => rfl) (fun _ => rfl)
    (fun a H ho => by simp only [AttrC.hopsT, ho])

theorem pathAttrs (h : Ctx cfg c m) : m.pathAttributes = (expected cfg c).attrs := by
  simp only [expected, h.pa, okItems, TContent.raws, List.map_map, Prod.mk.injEq, and_true]
  apply List.map_congr_left
  intro a ha
  simp [reportAttr, (attr_reported cfg a (h.kind a ha)).1]

theorem owned (h : Ctx cfg c m) :
    m.pathAttributes.1.map (ownedOf m.ppi.four) = (expected cfg c).owned := by
  rw [h.pathAttrs]
  simp only [expected, okItems, List.map_map, h.four]
  apply List.map_congr_left
  intro a ha
  simp [ownedOf, (attr_reported cfg a (h.kind a ha)).2]

end Ctx

end Rc.Upd
