/-
Helper lemmas for C16 (Rc/Thm/C16.lean): well-formedness predicates for the
reference encoder's inputs, and "decode ∘ encode" facts for every layer of
the MRT model.  Core Lean only.
-/
import Rc.Model.Mrt

namespace Rc.Mrt
open Rc

theorem rd8_cons (a : UInt8) (r : Bytes) : rd8 (a :: r) = some (a.toNat, r) := rfl

/-! a reader that succeeded did not look beyond what it consumed -/

theorem rd16_append {p : Bytes} (h : rd16 p ≠ none) (s : Bytes) :
    rd16 (p ++ s) = (rd16 p).map fun x => (x.1, x.2 ++ s) := by
  match p, h with
  | _ :: _ :: _, _ => rfl

theorem rd32_append {p : Bytes} (h : rd32 p ≠ none) (s : Bytes) :
    rd32 (p ++ s) = (rd32 p).map fun x => (x.1, x.2 ++ s) := by
  match p, h with
  | _ :: _ :: _ :: _ :: _, _ => rfl

theorem takeN_append_of {n : Nat} {p : Bytes} (h : takeN n p ≠ none) (s : Bytes) :
    takeN n (p ++ s) = (takeN n p).map fun x => (x.1, x.2 ++ s) := by
  cases hp : takeN n p with
  | none => exact absurd hp h
  | some x =>
    obtain ⟨rfl, rfl⟩ := takeN_length hp
    rw [List.append_assoc]
    exact takeN_append x.1 _

theorem length_flatMap_le_flatMap {α β γ} (g : α → List β) (enc : α → List γ) (xs : List α)
    (h : ∀ x ∈ xs, (g x).length ≤ (enc x).length) : (xs.flatMap g).length ≤ (xs.flatMap enc).length := by
  induction xs with
  | nil => exact Nat.le_refl _
  | cons x xs ih =>
    have h1 := h x (by simp)
    have h2 := ih fun y hy => h y (by simp [hy])
    simp only [List.flatMap_cons, List.length_append]
    omega

theorem length_le_flatMap {α} (enc : α → Bytes) (xs : List α) (h : ∀ x ∈ xs, 1 ≤ (enc x).length) :
    xs.length ≤ (xs.flatMap enc).length := by
  simpa using length_flatMap_le_flatMap (fun x => [x]) enc xs h

theorem drain_none {σ α} {next : σ → Outcome (Option (α × σ))} {s : σ} (n : Nat)
    (h : next s = .ok none) : drain next (n + 1) s = .ok [] := by
  simp [drain, h]

theorem drain_some {σ α} {next : σ → Outcome (Option (α × σ))} {s s' : σ} {a : α} {l : List α}
    (n : Nat) (h : next s = .ok (some (a, s'))) (h' : drain next n s' = .ok l) :
    drain next (n + 1) s = .ok (a :: l) := by
  simp [drain, h, h']

theorem drain_congr {σ α} {next : σ → Outcome (Option (α × σ))} {s s' : σ} (n : Nat)
    (h : next s = next s') : drain next (n + 1) s = drain next (n + 1) s' := by
  simp only [drain, h]

/-- a run through states `st xs` indexed by the items still to come -/
theorem drain_list {σ α β} {next : σ → Outcome (Option (β × σ))} (st : List α → σ) (g : α → β)
    {l : List β} (hl : ∀ fuel, l.length < fuel → drain next fuel (st []) = .ok l) (xs : List α)
    (hstep : ∀ x ∈ xs, ∀ xs', next (st (x :: xs')) = .ok (some (g x, st xs'))) :
    ∀ fuel, xs.length + l.length < fuel → drain next fuel (st xs) = .ok (xs.map g ++ l) := by
  induction xs with
  | nil => simpa using hl
  | cons x xs ih =>
    exact fun | n + 1, hf => drain_some n (hstep x (by simp) xs)
                (ih (fun b hb => hstep b (by simp [hb])) n (by simp at hf; omega))

/-- the fuel the model passes (octets left + 1) is enough: an item `next` decodes is not empty -/
theorem drain_flatMap {α β} {next : Bytes → Outcome (Option (β × Bytes))} {enc : α → Bytes}
    {dec : α → β} (hnil : next [] = .ok none) (xs : List α)
    (hstep : ∀ x ∈ xs, ∀ rest, next (enc x ++ rest) = .ok (some (dec x, rest))) :
    drain next ((xs.flatMap enc).length + 1) (xs.flatMap enc) = .ok (xs.map dec) := by
  have hlen := length_le_flatMap enc xs fun x hx => List.length_pos_iff.2 fun h0 => by
    have := hstep x hx []
    rw [h0, List.nil_append, hnil] at this
    cases this
  simpa using drain_list (fun xs => xs.flatMap enc) dec (l := []) (fun | n + 1, _ => drain_none n hnil) xs
    (fun x hx xs' => hstep x hx _) _ (Nat.lt_succ_of_le hlen)

def WfPeer (p : PeerSpec) : Prop :=
  p.bgpId < 4294967296 ∧ (p.addr.length = 4 ∨ p.addr.length = 16) ∧
    p.asn < (if p.as4 then 4294967296 else 65536)

instance (p : PeerSpec) : Decidable (WfPeer p) := by unfold WfPeer; infer_instance

/-- `np` = number of peers in the file's index table -/
def WfEntry (np : Nat) (e : EntrySpec) : Prop :=
  e.peerIdx < np ∧ e.peerIdx < 65536 ∧ e.origTime < 4294967296 ∧ e.attrs.length < 65536

instance (np : Nat) (e : EntrySpec) : Decidable (WfEntry np e) := by unfold WfEntry; infer_instance

def WfTable (np : Nat) (t : TableSpec) : Prop :=
  t.ts < 4294967296 ∧ t.seq < 4294967296 ∧ t.plen ≤ (if t.v6 then 128 else 32) ∧
    t.pbytes.length = (t.plen + 7) / 8 ∧ hostZero t.plen t.pbytes = true ∧
    t.entries.length < 65536 ∧ (∀ e ∈ t.entries, WfEntry np e) ∧
    (encTableBody t).length < 4294967296

instance (np : Nat) (t : TableSpec) : Decidable (WfTable np t) := by unfold WfTable; infer_instance

def WfFile (f : FileSpec) : Prop :=
  f.ts < 4294967296 ∧ f.collector < 4294967296 ∧ f.view.length < 65536 ∧
    f.peers.length < 65536 ∧ (∀ p ∈ f.peers, WfPeer p) ∧
    (encPeerTableBody f).length < 4294967296 ∧ (∀ t ∈ f.tables, WfTable f.peers.length t)

instance (f : FileSpec) : Decidable (WfFile f) := by unfold WfFile; infer_instance

theorem WfFile.tables {f : FileSpec} (h : WfFile f) : ∀ t ∈ f.tables, WfTable f.peers.length t :=
  h.2.2.2.2.2.2

theorem WfTable.entries {np : Nat} {t : TableSpec} (h : WfTable np t) : ∀ e ∈ t.entries, WfEntry np e :=
  h.2.2.2.2.2.2.1

theorem parse_encRecord (ts ty sub : Nat) (body rest : Bytes)
    (hts : ts < 4294967296) (hty : ty = 13 ∨ ty = 16) (hsub : sub < 65536)
    (hlen : body.length < 4294967296) :
    CommonHeader.parse (encRecord ts ty sub body ++ rest)
      = .ok (⟨ts, ty, sub, body.length, 0, body⟩, rest) := by
  have hty' : ty < 65536 := by omega
  have h17 : ty ≠ 17 := by omega
  simp [CommonHeader.parse, encRecord, List.append_assoc, rd32_be32, rd16_be16, takeN_append, *]

theorem parse_encRecordEt (ts sub mus : Nat) (body rest : Bytes)
    (hts : ts < 4294967296) (hsub : sub < 65536) (hmus : mus < 4294967296)
    (hlen : body.length + 4 < 4294967296) :
    CommonHeader.parse (encRecordEt ts sub mus body ++ rest)
      = .ok (⟨ts, 17, sub, body.length, mus, body⟩, rest) := by
  simp [CommonHeader.parse, encRecordEt, List.append_assoc, rd32_be32, rd16_be16, takeN_append, *]

theorem parse_append (p s : Bytes) :
    CommonHeader.parse p = .err ∨ CommonHeader.parse (p ++ s) = match CommonHeader.parse p with
      | .ok (m, r) => .ok (m, r ++ s)
      | o => o := by
  -- a read that fails on `p` gives a form error; reads that succeed on `p` give the same value on `p ++ s`
  fun_cases CommonHeader.parse p
  all_goals first
    | exact .inl rfl
    | exact .inr (by simp [CommonHeader.parse, rd16_append, rd32_append, takeN_append_of, *] <;> omega)

/-- a cut inside a framed record is a form error: any other result would, by `parse_append`, be that of the
whole record too, which leaves exactly `rest` -/
theorem parse_take {b rest : Bytes} {m : CommonHeader}
    (h : CommonHeader.parse (b ++ rest) = .ok (m, rest)) {k : Nat} (hk : k < b.length) :
    CommonHeader.parse (b.take k) = .err := by
  rcases parse_append (b.take k) (b.drop k ++ rest) with he | h'
  · exact he
  rw [← List.append_assoc, List.take_append_drop, h] at h'
  cases hp : CommonHeader.parse (b.take k) with
  | err => rfl
  | panic => rw [hp] at h'; cases h'
  | ok x =>
    rw [hp] at h'
    injection h' with h'
    have hlen := congrArg (fun q => q.2.length) h'
    simp only [List.length_append, List.length_drop] at hlen
    omega

theorem parse_encPeer (p : PeerSpec) (rest : Bytes) (h : WfPeer p) :
    PeerEntry.parse (encPeer p ++ rest) = .ok (p.entry, rest) := by
  obtain ⟨hid, haddr, hasn⟩ := h
  cases h4 : p.as4 <;> rcases haddr with ha | ha <;>
    simp [h4] at hasn ⊢ <;>
    simp [PeerEntry.parse, encPeer, rd8_cons, List.append_assoc, rd32_be32, rd16_be16,
      takeN_append_of_length, PeerSpec.entry, *]

theorem peerNext_of_parts {bs r : Bytes} {p : PeerEntry} (h : PeerEntry.parse bs = .ok (p, r)) :
    peerNext bs = .ok (some (p, r)) := by
  cases bs with
  | nil => cases h
  | cons a bs => simp [peerNext, h]

/-- `PeerIndexTable::parse` reads the view name only `if view_len > 0`; reading no octets comes to the same -/
theorem takeN_if_pos (n : Nat) (r : Bytes) : (if n > 0 then takeN n r else some ([], r)) = takeN n r := by
  split
  · rfl
  · have : n = 0 := by omega
    subst this; rfl

theorem parse_peerTableBody (f : FileSpec) (h : WfFile f) :
    PeerIndexTable.parse (encPeerTableBody f)
      = .ok ⟨f.collector, f.view, f.peers.length, f.peers.flatMap encPeer⟩ := by
  obtain ⟨_, hc, hv, hp, _, _, _⟩ := h
  simp only [PeerIndexTable.parse, encPeerTableBody, rd32_be32 _ hc, rd16_be16 _ hv, takeN_if_pos]
  simp only [takeN_append, rd16_be16 _ hp]

/-- stated over an arbitrary byte string, so that nothing has to be evaluated -/
theorem extract_of_parts {bs rest msg : Bytes} {ts len mus : Nat} {pit : PeerIndexTable}
    {peers : List PeerEntry} (h : CommonHeader.parse bs = .ok (⟨ts, 13, 1, len, mus, msg⟩, rest))
    (hp : PeerIndexTable.parse msg = .ok pit)
    (hd : drain peerNext (pit.peerEntries.length + 1) pit.peerEntries = .ok peers)
    (hc : peers.length = pit.peerCount) :
    extractPeerIndexTable bs = .ok (peers, rest) := by
  unfold extractPeerIndexTable
  rw [h]
  simp only [hp, hd, hc, if_true]

theorem extract_encFile (f : FileSpec) (h : WfFile f) :
    extractPeerIndexTable (encFile f) = .ok (f.peers.map PeerSpec.entry, encTables f.tables) := by
  have hb := parse_peerTableBody f h
  obtain ⟨hts, _, _, _, hps, hlen, _⟩ := h
  exact extract_of_parts
    (parse_encRecord f.ts 13 1 (encPeerTableBody f) (encTables f.tables) hts (Or.inl rfl) (by omega) hlen)
    hb (drain_flatMap rfl f.peers fun p hp rest => peerNext_of_parts (parse_encPeer p rest (hps p hp)))
    (List.length_map _)

theorem peerIndex_of_parts {bs rest : Bytes} {peers : List PeerEntry}
    (he : extractPeerIndexTable bs = .ok (peers, rest)) : peerIndex bs = .ok peers := by
  unfold peerIndex; rw [he]

theorem parsePrefix_enc (v6 : Bool) (plen : Nat) (pb r : Bytes)
    (hl : plen ≤ (if v6 then 128 else 32)) (hb : pb.length = (plen + 7) / 8)
    (hz : hostZero plen pb = true) :
    parsePrefix v6 (UInt8.ofNat plen :: (pb ++ r)) = .ok (⟨v6, plen, pb⟩, r) := by
  have h256 : plen < 256 := by split at hl <;> omega
  have hnb : ¬ ((plen + 7) / 8 > (if v6 then 16 else 4)) := by cases v6 <;> simp at hl ⊢ <;> omega
  have hgt : ¬ (plen > (if v6 then 128 else 32)) := by omega
  simp only [parsePrefix, rd8_cons, UInt8.toNat_ofNat_of_lt' h256, hnb, hgt, if_false, takeN_append_of_length hb r, hz,
    if_true]

def TableSpec.hdr (t : TableSpec) : RibEntryHeader :=
  ⟨t.seq, t.pfx, t.entries.length, encEntries t.entries⟩

theorem parse_encTableBody {np : Nat} (t : TableSpec) (h : WfTable np t) :
    RibEntryHeader.parse t.v6 (encTableBody t) = .ok t.hdr := by
  obtain ⟨_, hseq, hpl, hpb, hz, hn, _, _⟩ := h
  simp only [RibEntryHeader.parse, encTableBody, rd32_be32 _ hseq, parsePrefix_enc t.v6 t.plen t.pbytes _ hpl hpb hz,
    rd16_be16 _ hn, TableSpec.hdr, TableSpec.pfx]

theorem parse_encEntry {np : Nat} (e : EntrySpec) (rest : Bytes) (h : WfEntry np e) :
    RibEntry.parse (encEntry e ++ rest) = .ok (⟨e.peerIdx, e.origTime, e.attrs⟩, rest) := by
  obtain ⟨_, hi, ho, ha⟩ := h
  simp only [RibEntry.parse, encEntry, List.append_assoc, rd16_be16 _ hi, rd32_be32 _ ho, rd16_be16 _ ha,
    takeN_append]

theorem encEntry_length_pos (e : EntrySpec) : 1 ≤ (encEntry e).length := Nat.succ_le_succ (Nat.zero_le _)

theorem encEntries_cons (e : EntrySpec) (es : List EntrySpec) :
    encEntries (e :: es) = encEntry e ++ encEntries es := rfl

theorem encEntries_isEmpty (es : List EntrySpec) : (encEntries es).isEmpty = es.isEmpty := by
  cases es with
  | nil => rfl
  | cons e es => simp [encEntries_cons, encEntry, be16]

theorem encTables_cons (t : TableSpec) (ts : List TableSpec) :
    encTables (t :: ts) = encTable t ++ encTables ts := rfl

theorem encTable_length_pos (t : TableSpec) : 1 ≤ (encTable t).length := Nat.succ_le_succ (Nat.zero_le _)

theorem parse_encTable {np : Nat} (t : TableSpec) (rest : Bytes) (h : WfTable np t) :
    CommonHeader.parse (encTable t ++ rest)
      = .ok (⟨t.ts, 13, if t.v6 then 4 else 2, (encTableBody t).length, 0, encTableBody t⟩, rest) := by
  obtain ⟨hts, _, _, _, _, _, _, hlen⟩ := h
  exact parse_encRecord t.ts 13 _ (encTableBody t) rest hts (Or.inl rfl) (by split <;> omega) hlen

theorem tableNext_of_parts {bs rest msg : Bytes} {ts len mus : Nat} {reh : RibEntryHeader} (v6 : Bool)
    (h : CommonHeader.parse bs = .ok (⟨ts, 13, if v6 then 4 else 2, len, mus, msg⟩, rest))
    (hr : RibEntryHeader.parse v6 msg = .ok reh) :
    tableNext bs = .ok (some ((v6, reh), rest)) := by
  cases bs with
  | nil => cases h
  | cons a bs => cases v6 <;> simp [tableNext, h, hr]

theorem drain_tables {np : Nat} {ts : List TableSpec} (h : ∀ t ∈ ts, WfTable np t) :
    drain tableNext ((encTables ts).length + 1) (encTables ts) = .ok (ts.map fun t => (t.v6, t.hdr)) :=
  drain_flatMap rfl ts fun t ht rest =>
    tableNext_of_parts t.v6 (parse_encTable t rest (h t ht)) (parse_encTableBody t (h t ht))

theorem tables_of_parts {bs rest : Bytes} {peers : List PeerEntry} {ts : List (Bool × RibEntryHeader)}
    (he : extractPeerIndexTable bs = .ok (peers, rest))
    (hd : drain tableNext (rest.length + 1) rest = .ok ts) : tables bs = .ok (peers, ts) := by
  unfold tables
  rw [he]
  simp only [hd]

theorem singleNext_of_parts {p : Prefix} {bs r : Bytes} {re : RibEntry}
    (h : RibEntry.parse bs = .ok (re, r)) :
    singleNext p bs = .ok (some ((p, re.peerIdx, re.attrs), r)) := by
  cases bs with
  | nil => cases h
  | cons a bs => simp [singleNext, h]

theorem single_hdr {np : Nat} {t : TableSpec} (h : WfTable np t) :
    single t.hdr = .ok (t.entries.map fun e => (t.pfx, e.peerIdx, e.attrs)) :=
  drain_flatMap rfl t.entries fun e he rest =>
    singleNext_of_parts (parse_encEntry e rest (h.entries e he))

theorem mtRun_cons_ok {t : Bool × RibEntryHeader} {ts : List (Bool × RibEntryHeader)} {es : List SingleItem} :
    mtRun (t :: ts) = .ok es ↔ ∃ a b, single t.2 = .ok a ∧ mtRun ts = .ok b ∧ es = a ++ b := by
  rw [mtRun]
  cases ha : single t.2 with
  | ok a => cases hb : mtRun ts <;> simp [eq_comm]
  | err => simp
  | panic => simp

theorem mtRun_map {α} (hd : α → Bool × RibEntryHeader) (g : α → List SingleItem) (xs : List α)
    (h : ∀ x ∈ xs, single (hd x).2 = .ok (g x)) : mtRun (xs.map hd) = .ok (xs.flatMap g) := by
  induction xs with
  | nil => rfl
  | cons x xs ih =>
    exact mtRun_cons_ok.2 ⟨_, _, h x (by simp), ih fun y hy => h y (by simp [hy]), rfl⟩

theorem mtRun_perm {ts ts' : List (Bool × RibEntryHeader)} (hp : ts'.Perm ts) :
    ∀ {es}, mtRun ts = .ok es → ∃ es', mtRun ts' = .ok es' ∧ es'.Perm es := by
  induction hp with
  | nil => exact fun h => ⟨_, h, .refl _⟩
  | cons t _ ih =>
    intro es h
    obtain ⟨a, b, ha, hb, rfl⟩ := mtRun_cons_ok.1 h
    obtain ⟨b', hb', hbb⟩ := ih hb
    exact ⟨a ++ b', mtRun_cons_ok.2 ⟨a, b', ha, hb', rfl⟩, hbb.append_left a⟩
  | swap t u l =>
    intro es h
    obtain ⟨a, bc, ha, hbc, rfl⟩ := mtRun_cons_ok.1 h
    obtain ⟨b, c, hb, hc, rfl⟩ := mtRun_cons_ok.1 hbc
    refine ⟨b ++ (a ++ c), mtRun_cons_ok.2 ⟨b, _, hb, mtRun_cons_ok.2 ⟨a, c, ha, hc, rfl⟩, rfl⟩, ?_⟩
    rw [← List.append_assoc, ← List.append_assoc]
    exact List.perm_append_comm.append_right c
  | trans _ _ ih₁ ih₂ =>
    intro es h
    obtain ⟨es₂, h₂, p₂⟩ := ih₂ h
    obtain ⟨es₁, h₁, p₁⟩ := ih₁ h₂
    exact ⟨es₁, h₁, p₁.trans p₂⟩

theorem ribEntriesMtSeq_of_parts {bs : Bytes} {peers : List PeerEntry}
    {ts : List (Bool × RibEntryHeader)} (h : tables bs = .ok (peers, ts)) :
    ribEntriesMtSeq bs = mtRun ts := by
  unfold ribEntriesMtSeq; rw [h]

/-- peer `i` of the index table (total; inside the envelope `i` is in range) -/
def resolve (peers : List PeerEntry) (i : Nat) : PeerEntry := peers.getD i ⟨0, [], 0⟩

theorem resolve_lt {peers : List PeerEntry} {i : Nat} (h : i < peers.length) :
    peers[i]? = some (resolve peers i) := by
  simp [resolve, List.getD, List.getElem?_eq_getElem h]

/-- what `RibEntryIterator` yields for entry `e` of table `t` -/
def ribItem (peers : List PeerEntry) (t : TableSpec) (e : EntrySpec) : RibItem :=
  (t.v6, e.peerIdx, resolve peers e.peerIdx, t.pfx, e.attrs)

/-- `current_table` while the entries `es` of table `t` are still to come -/
def curOf (t : TableSpec) (es : List EntrySpec) : Option RibEntryHeader :=
  if es.isEmpty then none else some { t.hdr with entries := encEntries es }

theorem ribLoad_cur {s : RibIt} {table : RibEntryHeader} (hc : s.cur = some table) :
    ribLoad s = .ok (some s) := by
  unfold ribLoad; rw [hc]

theorem ribLoad_of_parts {bs rest msg : Bytes} {ts len mus : Nat} {reh : RibEntryHeader} (v6 : Bool)
    (fam : Option Bool)
    (h : CommonHeader.parse bs = .ok (⟨ts, 13, if v6 then 4 else 2, len, mus, msg⟩, rest))
    (hr : RibEntryHeader.parse v6 msg = .ok reh) :
    ribLoad ⟨bs, none, fam⟩ = .ok (some ⟨rest, some reh, some v6⟩) := by
  cases bs with
  | nil => cases h
  | cons a bs => cases v6 <;> simp [ribLoad, h, hr]

theorem ribTake_of_parts {peers : List PeerEntry} {R r : Bytes} {table : RibEntryHeader} {v6 : Bool}
    {re : RibEntry} {peer : PeerEntry}
    (he : RibEntry.parse table.entries = .ok (re, r)) (hp : peers[re.peerIdx]? = some peer) :
    ribTake peers ⟨R, some table, some v6⟩ = .ok (some ((v6, re.peerIdx, peer, table.pfx, re.attrs),
      ⟨R, if r.isEmpty then none else some { table with entries := r }, some v6⟩)) := by
  simp only [ribTake, he, hp]

theorem ribNext_of_cur {peers : List PeerEntry} {R : Bytes} {fam : Option Bool} {table : RibEntryHeader}
    (hne : table.entries.isEmpty = false) :
    ribNext peers ⟨R, some table, fam⟩ = ribTake peers ⟨R, some table, fam⟩ := by
  rw [ribNext, ribNextF, ribLoad_cur rfl]
  simp [hne]

/-- `hd` a variable: the callers' records match `hhd`'s right side only after rewriting -/
theorem ribTake_entry (peers : List PeerEntry) (t : TableSpec) (R : Bytes) (e : EntrySpec)
    (es : List EntrySpec) (he : WfEntry peers.length e) {hd : RibEntryHeader}
    (hhd : hd = { t.hdr with entries := encEntries (e :: es) }) :
    ribTake peers ⟨R, some hd, some t.v6⟩ = .ok (some (ribItem peers t e, ⟨R, curOf t es, some t.v6⟩)) := by
  subst hhd
  rw [ribTake_of_parts
    (by rw [encEntries_cons]; exact parse_encEntry e _ he) (resolve_lt he.1)]
  simp only [encEntries_isEmpty, curOf, ribItem, TableSpec.hdr]

theorem ribNext_entry (peers : List PeerEntry) (t : TableSpec) (R : Bytes) (e : EntrySpec)
    (es : List EntrySpec) (he : WfEntry peers.length e) :
    ribNext peers ⟨R, curOf t (e :: es), some t.v6⟩
      = .ok (some (ribItem peers t e, ⟨R, curOf t es, some t.v6⟩)) := by
  rw [show curOf t (e :: es) = some { t.hdr with entries := encEntries (e :: es) } from rfl,
    ribNext_of_cur (by simp [encEntries_isEmpty])]
  exact ribTake_entry peers t R e es he rfl

/-- what the first `next()` on the tables `ts` (no table current) returns: the first entry of
the first table that has one -/
def nextSpec (peers : List PeerEntry) : List TableSpec → Option (RibItem × RibIt)
  | [] => none
  | t :: ts =>
    match t.entries with
    | [] => nextSpec peers ts
    | e :: es => some (ribItem peers t e, ⟨encTables ts, curOf t es, some t.v6⟩)

theorem ribNextF_tables (peers : List PeerEntry) (ts : List TableSpec)
    (hts : ∀ t ∈ ts, WfTable peers.length t) (fam : Option Bool) (f : Nat) (hf : ts.length < f) :
    ribNextF peers f ⟨encTables ts, none, fam⟩ = .ok (nextSpec peers ts) := by
  induction ts generalizing fam f with
  | nil =>
    match f, hf with
    | n + 1, _ => rfl
  | cons t ts ih =>
    match f, hf with
    | n + 1, hf =>
      have ht := hts t (by simp)
      rw [ribNextF, encTables_cons,
        ribLoad_of_parts t.v6 fam (parse_encTable t _ ht) (parse_encTableBody t ht)]
      dsimp only
      rw [show t.hdr.entries.isEmpty = t.entries.isEmpty from encEntries_isEmpty t.entries, nextSpec]
      cases hE : t.entries with
      | nil => exact ih (fun q hq => hts q (by simp [hq])) _ n (by simpa using hf)
      | cons e es =>
        exact ribTake_entry peers t (encTables ts) e es (ht.entries e (by simp [hE]))
          (by simp [TableSpec.hdr, hE])

theorem ribNext_tables {peers : List PeerEntry} {ts : List TableSpec}
    (hts : ∀ t ∈ ts, WfTable peers.length t) (fam : Option Bool) :
    ribNext peers ⟨encTables ts, none, fam⟩ = .ok (nextSpec peers ts) := by
  unfold ribNext
  have := length_le_flatMap encTable ts fun t _ => encTable_length_pos t
  exact ribNextF_tables peers ts hts fam _ (by simp only [encTables]; omega)

theorem ribNext_load {peers : List PeerEntry} {t : TableSpec} {ts : List TableSpec}
    (hts : ∀ q ∈ t :: ts, WfTable peers.length q) (fam : Option Bool) :
    ribNext peers ⟨encTables (t :: ts), none, fam⟩
      = ribNext peers ⟨encTables ts, curOf t t.entries, some t.v6⟩ := by
  have hes := (hts t (by simp)).entries
  rw [ribNext_tables hts fam, nextSpec]
  match t.entries, hes with
  | [], _ => exact (ribNext_tables (fun q hq => hts q (by simp [hq])) _).symm
  | e :: es, hes => exact (ribNext_entry peers t _ e es (hes e (by simp))).symm

theorem drain_rib_tables {peers : List PeerEntry} {ts : List TableSpec}
    (hts : ∀ t ∈ ts, WfTable peers.length t) (fam : Option Bool) :
    ∀ fuel, (ts.flatMap fun t => t.entries.map (ribItem peers t)).length < fuel →
      drain (ribNext peers) fuel ⟨encTables ts, none, fam⟩
        = .ok (ts.flatMap fun t => t.entries.map (ribItem peers t)) := by
  induction ts generalizing fam with
  | nil => exact fun | n + 1, _ => drain_none n (ribNext_tables hts fam)
  | cons t ts ih =>
    intro fuel hf
    match fuel, hf with
    | n + 1, hf =>
      rw [drain_congr n (ribNext_load hts fam), List.flatMap_cons]
      exact drain_list (fun es => (⟨encTables ts, curOf t es, some t.v6⟩ : RibIt)) _
        (ih (fun q hq => hts q (by simp [hq])) _) t.entries
        (fun e he es => ribNext_entry peers t _ e es ((hts t (by simp)).entries e he)) _
        (by simpa using hf)

theorem ribEntries_of_parts {bs rest : Bytes} {peers : List PeerEntry}
    (he : extractPeerIndexTable bs = .ok (peers, rest)) :
    ribEntries bs = drain (ribNext peers) (rest.length + 1) ⟨rest, none, none⟩ := by
  unfold ribEntries
  rw [he]

theorem entries_length_le {β} (g : TableSpec → EntrySpec → β) (ts : List TableSpec) :
    (ts.flatMap fun t => t.entries.map (g t)).length ≤ (encTables ts).length := by
  refine length_flatMap_le_flatMap _ encTable ts fun t _ => ?_
  have := length_le_flatMap encEntry t.entries fun e _ => encEntry_length_pos e
  simp only [List.length_map, encTable, encRecord, encTableBody, encEntries, List.length_append,
    List.length_cons] at this ⊢
  omega

def asBound (as4 : Bool) : Nat := if as4 then 4294967296 else 65536
def addrLen (v6 : Bool) : Nat := if v6 then 16 else 4

def WfBody : Bgp4Mp → Prop
  | .stateChange as4 pa la ifc v6 p l o n =>
    pa < asBound as4 ∧ la < asBound as4 ∧ ifc < 65536 ∧ p.length = addrLen v6 ∧ l.length = addrLen v6 ∧
      o < 65536 ∧ n < 65536
  | .message as4 pa la ifc v6 p l _ =>
    pa < asBound as4 ∧ la < asBound as4 ∧ ifc < 65536 ∧ p.length = addrLen v6 ∧ l.length = addrLen v6

instance (b : Bgp4Mp) : Decidable (WfBody b) := by cases b <;> (unfold WfBody; infer_instance)

def WfRec (r : RecSpec) : Prop :=
  r.ts < 4294967296 ∧ r.mus < 4294967296 ∧ WfBody r.body ∧ (encBody r.body).length + 4 < 4294967296

instance (r : RecSpec) : Decidable (WfRec r) := by unfold WfRec; infer_instance

theorem rdAs_encAs (as4 : Bool) (n : Nat) (h : n < asBound as4) (r : Bytes) :
    (if as4 then rd32 (encAs as4 n ++ r) else rd16 (encAs as4 n ++ r)) = some (n, r) := by
  cases as4
  · exact rd16_be16 n h r
  · exact rd32_be32 n h r

theorem parsePeering_enc (as4 : Bool) (pa la ifc : Nat) (v6 : Bool) (p l rest : Bytes)
    (hpa : pa < asBound as4) (hla : la < asBound as4) (hifc : ifc < 65536)
    (hp : p.length = addrLen v6) (hl : l.length = addrLen v6) :
    parsePeering as4 (encPeering as4 pa la ifc v6 p l ++ rest) = .ok ((pa, la, ifc, v6, p, l), rest) := by
  simp only [parsePeering, encPeering, List.append_assoc, rdAs_encAs _ _ hpa, rdAs_encAs _ _ hla,
    rd16_be16 _ hifc]
  cases v6 <;> simp [rd16_be16, takeN_append_of_length, hp, hl, addrLen]

theorem parseBody_enc (b : Bgp4Mp) (h : WfBody b) : parseBody (subtypeOf b) (encBody b) = .ok b := by
  cases b with
  | stateChange as4 pa la ifc v6 p l o n =>
    obtain ⟨hpa, hla, hifc, hp, hl, ho, hn⟩ := h
    have h2 : rd16 (be16 n) = some (n, []) := by simpa using rd16_be16 n hn []
    cases as4 <;> simp [parseBody, subtypeOf, encBody, parseStateChange, parsePeering_enc, rd16_be16, *]
  | message as4 pa la ifc v6 p l bgp =>
    obtain ⟨hpa, hla, hifc, hp, hl⟩ := h
    cases as4 <;> simp [parseBody, subtypeOf, encBody, parseMessage, parsePeering_enc, *]

theorem subtypeOf_lt (b : Bgp4Mp) : subtypeOf b < 65536 := by
  cases b with
  | stateChange as4 => cases as4 <;> simp [subtypeOf]
  | message as4 => cases as4 <;> simp [subtypeOf]

theorem parse_encRec (r : RecSpec) (rest : Bytes) (h : WfRec r) :
    CommonHeader.parse (encRec r ++ rest)
      = .ok (⟨r.ts, if r.et then 17 else 16, subtypeOf r.body, (encBody r.body).length,
          if r.et then r.mus else 0, encBody r.body⟩, rest) := by
  obtain ⟨hts, hmus, _, hlen⟩ := h
  unfold encRec
  cases r.et
  · exact parse_encRecord r.ts 16 _ (encBody r.body) rest hts (Or.inr rfl) (subtypeOf_lt _) (by omega)
  · exact parse_encRecordEt r.ts _ r.mus (encBody r.body) rest hts (subtypeOf_lt _) hmus hlen

theorem encRec_length_pos (r : RecSpec) : 1 ≤ (encRec r).length := by
  unfold encRec
  cases r.et <;> exact Nat.succ_le_succ (Nat.zero_le _)

theorem encRecs_cons (r : RecSpec) (rs : List RecSpec) : encRecs (r :: rs) = encRec r ++ encRecs rs := rfl

theorem msgPoll_of_parts {bs rest : Bytes} {m : CommonHeader} {item : Bgp4Mp} (fuel : Nat)
    (h : CommonHeader.parse bs = .ok (m, rest))
    (ht : m.msgType = 16 ∨ m.msgType = 17) (hb : parseBody m.subtype m.message = .ok item) :
    msgPoll (fuel + 1) bs = .ok (some item, rest) := by
  cases bs with
  | nil => cases h
  | cons a bs => simp [msgPoll, h, ht, hb]

/-- header error (or nothing left): `None`, and the parser is at its end -/
theorem msgPoll_fuse {bs : Bytes} (fuel : Nat) (h : CommonHeader.parse bs = .err) :
    msgPoll (fuel + 1) bs = .ok (none, []) := by
  cases bs with
  | nil => rfl
  | cons a bs => simp [msgPoll, h]

theorem msgPoll_encRec (r : RecSpec) (rest : Bytes) (fuel : Nat) (h : WfRec r) :
    msgPoll (fuel + 1) (encRec r ++ rest) = .ok (some r.body, rest) :=
  msgPoll_of_parts fuel (parse_encRec r rest h) (by cases r.et <;> simp) (parseBody_enc r.body h.2.2.1)

theorem msgsRun_none {s e : Bytes} (n : Nat) (h : msgPoll (s.length + 1) s = .ok (none, e)) :
    msgsRun (n + 1) s = .ok ([], e) := by
  simp [msgsRun, h]

theorem msgsRun_some {s s' e : Bytes} {a : Bgp4Mp} {l : List Bgp4Mp} (n : Nat)
    (h : msgPoll (s.length + 1) s = .ok (some a, s')) (h' : msgsRun n s' = .ok (l, e)) :
    msgsRun (n + 1) s = .ok (a :: l, e) := by
  simp [msgsRun, h, h']

theorem msgPoll_none_end {fuel : Nat} {s s' : Bytes} (h : msgPoll fuel s = .ok (none, s')) : s' = [] := by
  fun_induction msgPoll fuel s <;> simp_all

theorem msgsRun_end {n : Nat} {bs e : Bytes} {l : List Bgp4Mp} (h : msgsRun n bs = .ok (l, e)) : e = [] := by
  fun_induction msgsRun n bs generalizing l <;> simp_all
  exact msgPoll_none_end ‹_›

/-- a record the message iterator passes over (`continue`): it frames
correctly, and it is either not a BGP4MP record or its body does not parse -/
def Skippable (b : Bytes) : Prop :=
  b.isEmpty = false ∧ ∀ rest, ∃ m, CommonHeader.parse (b ++ rest) = .ok (m, rest) ∧
    ((¬ (m.msgType = 16 ∨ m.msgType = 17)) ∨ parseBody m.subtype m.message = .err)

/-- one record of a mixed file -/
inductive Seg where
  | bgp (r : RecSpec)
  | skip (b : Bytes)

def Seg.enc : Seg → Bytes
  | .bgp r => encRec r
  | .skip b => b

def Seg.Wf : Seg → Prop
  | .bgp r => WfRec r
  | .skip b => Skippable b

def encSegs (ss : List Seg) : Bytes := ss.flatMap Seg.enc

/-- the BGP4MP items of a mixed file, in order -/
def bodiesOf : List Seg → List Bgp4Mp
  | [] => []
  | .bgp r :: ss => r.body :: bodiesOf ss
  | .skip _ :: ss => bodiesOf ss

theorem msgPoll_skip {b rest : Bytes} (fuel : Nat) (h : Skippable b) :
    msgPoll (fuel + 1) (b ++ rest) = msgPoll fuel rest := by
  obtain ⟨hne, hp⟩ := h
  obtain ⟨m, hm, hs⟩ := hp rest
  cases b with
  | nil => cases hne
  | cons x xs =>
    rw [msgPoll, hm]
    rcases hs with hs | hs <;> simp [hs]

theorem Seg.enc_length_pos (s : Seg) (h : s.Wf) : 1 ≤ s.enc.length := by
  cases s with
  | bgp r => exact encRec_length_pos r
  | skip b =>
    cases b with
    | nil => cases h.1
    | cons x xs => simp [Seg.enc]

theorem length_lt_encSegs {ss : List Seg} (h : ∀ s ∈ ss, s.Wf) (tail : Bytes) :
    ss.length < (encSegs ss ++ tail).length + 1 := by
  have := length_le_flatMap Seg.enc ss fun s hs => Seg.enc_length_pos s (h s hs)
  rw [List.length_append, encSegs]
  omega

theorem bodiesOf_length_le (ss : List Seg) : (bodiesOf ss).length ≤ ss.length := by
  fun_induction bodiesOf ss <;> simp_all <;> omega

theorem encSegs_cons (x : Seg) (ss : List Seg) : encSegs (x :: ss) = x.enc ++ encSegs ss := rfl

/-- Passing a record over costs the poll one unit of fuel, so its fuel cannot stay tied to the length of the
input as in `msgsRun`: the induction is over any `s` whose first poll is a poll of the file with some `fuel`. -/
theorem msgsRun_segs (ss : List Seg) (h : ∀ s ∈ ss, s.Wf) {tail : Bytes}
    (ht : CommonHeader.parse tail = .err) :
    ∀ (fuel n : Nat) (s : Bytes), ss.length < fuel → (bodiesOf ss).length < n →
      msgPoll (s.length + 1) s = msgPoll fuel (encSegs ss ++ tail) →
      msgsRun n s = .ok (bodiesOf ss, []) := by
  induction ss with
  | nil => exact fun | f + 1, n + 1, s, _, _, hs => msgsRun_none n (hs.trans (msgPoll_fuse f ht))
  | cons x ss ih =>
    have hss : ∀ q ∈ ss, q.Wf := fun q hq => h q (List.mem_cons_of_mem _ hq)
    have hx := h x List.mem_cons_self
    intro fuel n s hf hn hs
    match fuel, hf with
    | f + 1, hf =>
      rw [encSegs_cons, List.append_assoc] at hs
      cases x with
      | bgp r =>
        match n, hn with
        | n + 1, hn =>
          rw [Seg.enc, msgPoll_encRec r _ f hx] at hs
          exact msgsRun_some n hs (ih hss _ n _ (length_lt_encSegs hss tail) (Nat.lt_of_succ_lt_succ hn) rfl)
      | skip b =>
        rw [Seg.enc, msgPoll_skip f hx] at hs
        exact ih hss f n s (Nat.lt_of_succ_lt_succ hf) hn hs

theorem messages_segs (ss : List Seg) (h : ∀ s ∈ ss, s.Wf) {tail : Bytes}
    (ht : CommonHeader.parse tail = .err) : messages (encSegs ss ++ tail) = .ok (bodiesOf ss) := by
  have hlen := length_lt_encSegs h tail
  unfold messages
  rw [msgsRun_segs ss h ht _ _ _ hlen (Nat.lt_of_le_of_lt (bodiesOf_length_le ss) hlen) rfl]

theorem encSegs_bgp (rs : List RecSpec) : encSegs (rs.map .bgp) = encRecs rs := by
  rw [encSegs, List.flatMap_map]; rfl

theorem bodiesOf_bgp (rs : List RecSpec) : bodiesOf (rs.map .bgp) = rs.map (·.body) := by
  induction rs <;> simp_all [bodiesOf]

theorem wf_bgp {rs : List RecSpec} (h : ∀ r ∈ rs, WfRec r) : ∀ s ∈ rs.map Seg.bgp, s.Wf := by
  intro s hs
  obtain ⟨r, hr, rfl⟩ := List.mem_map.1 hs
  exact h r hr

theorem skippable_encRecord (ts ty sub : Nat) (body : Bytes) (hts : ts < 4294967296)
    (hty : ty = 13 ∨ ty = 16) (hsub : sub < 65536) (hlen : body.length < 4294967296)
    (h : ty = 13 ∨ parseBody sub body = .err) : Skippable (encRecord ts ty sub body) :=
  ⟨rfl, fun rest => ⟨_, parse_encRecord ts ty sub body rest hts hty hsub hlen,
    h.imp (by rintro rfl; simp) id⟩⟩

/-- every framed TABLE_DUMP_V2 record is passed over by the message iterator -/
theorem skippable_td2 (ts sub : Nat) (body : Bytes) (hts : ts < 4294967296) (hsub : sub < 65536)
    (hlen : body.length < 4294967296) : Skippable (encRecord ts 13 sub body) :=
  skippable_encRecord ts 13 sub body hts (.inl rfl) hsub hlen (.inl rfl)

/-- a BGP4MP record whose body does not parse (e.g. unsupported AFI, short
body) is passed over -/
theorem skippable_bad_body (ts sub : Nat) (body : Bytes) (hts : ts < 4294967296) (hsub : sub < 65536)
    (hlen : body.length < 4294967296) (hb : parseBody sub body = .err) :
    Skippable (encRecord ts 16 sub body) :=
  skippable_encRecord ts 16 sub body hts (.inr rfl) hsub hlen (.inr hb)

end Rc.Mrt
