/- Lemmas about the BMP model: totality of the checks, what each check accepts (so what an
accepted message guarantees about its length), and totality of the accessors. -/
import Rc.Model.Bmp

namespace Rc.Bmp
open Rc

theorem idx_ok {bs : Bytes} {i : Nat} (h : i + 1 ≤ bs.length) : idx bs i = .ok (beAt bs i 1) := by
  simp [idx, h]

theorem slice_ok {bs : Bytes} {a b : Nat} (h1 : a ≤ b) (h2 : b ≤ bs.length) :
    slice bs a b = .ok ((bs.drop a).take (b - a)) := by
  simp [slice, h1, h2]

theorem sliceFrom_ok {bs : Bytes} {a : Nat} (h : a ≤ bs.length) : sliceFrom bs a = .ok (bs.drop a) := by
  simp [sliceFrom, h]

theorem rdBE_ok {bs : Bytes} {a n : Nat} (h : a + n ≤ bs.length) : rdBE bs a n = .ok (beAt bs a n) := by
  simp [rdBE, h]

theorem beAt_slice {bs : Bytes} {p m a n : Nat} (h : a + n ≤ m) :
    beAt ((bs.drop p).take m) a n = beAt bs (p + a) n := by
  simp only [beAt, List.drop_take, List.take_take, List.drop_drop]
  congr 2
  omega

/-! One link of a check, the continuation `k` a variable.  Used through `refine` / `exact` / `Iff.trans`,
never `rw`: the `match` of a model definition and the `match` written here are different constants that
unfold to the same `casesOn`.  `cU8`, `cU16`, `cU32` unfold to the `if` of `read_np` / `read_then_ok`
with `n` = 1, 2, 4. -/

theorem chain_np {β} {o : Outcome Nat} {k : Nat → Outcome β} (ho : o ≠ .panic) (hk : ∀ a, k a ≠ .panic) :
    (match o with | .ok a => k a | .err => .err | .panic => .panic) ≠ .panic := by
  cases o with
  | ok a => exact hk a
  | err => nofun
  | panic => exact absurd rfl ho

theorem chain_ok {β} {o : Outcome Nat} {k : Nat → Outcome β} {b : β} :
    (match o with | .ok a => k a | .err => .err | .panic => .panic) = .ok b ↔ ∃ a, o = .ok a ∧ k a = .ok b := by
  cases o <;> simp

theorem chain_np₂ {β} {o : Outcome (Nat × Nat)} {k : Nat → Nat → Outcome β} (ho : o ≠ .panic)
    (hk : ∀ v q, k v q ≠ .panic) :
    (match o with | .ok (v, q) => k v q | .err => .err | .panic => .panic) ≠ .panic := by
  cases o with
  | ok x => exact hk x.1 x.2
  | err => nofun
  | panic => exact absurd rfl ho

theorem read_np (bs : Bytes) (p n : Nat) :
    (if p + n ≤ bs.length then Outcome.ok (beAt bs p n, p + n) else .err) ≠ .panic := by
  split <;> nofun

theorem cAdvance_np (n : Nat) (bs : Bytes) (p : Nat) : cAdvance n bs p ≠ .panic := by
  unfold cAdvance; split <;> nofun

theorem read_then_ok {β} {bs : Bytes} {p n : Nat} {k : Nat → Nat → Outcome β} {b : β} :
    (match (if p + n ≤ bs.length then Outcome.ok (beAt bs p n, p + n) else .err) with
      | .ok (v, q) => k v q | .err => .err | .panic => .panic) = .ok b ↔
      p + n ≤ bs.length ∧ k (beAt bs p n) (p + n) = .ok b := by
  by_cases h : p + n ≤ bs.length <;> simp [h]

theorem cAdvance_ok {n : Nat} {bs : Bytes} {p q : Nat} :
    cAdvance n bs p = .ok q ↔ p + n ≤ bs.length ∧ q = p + n := by
  by_cases h : p + n ≤ bs.length <;> simp [cAdvance, h, eq_comm]

theorem cAdvance_then_ok {β} {n : Nat} {bs : Bytes} {p : Nat} {k : Nat → Outcome β} {b : β} :
    (match cAdvance n bs p with | .ok q => k q | .err => .err | .panic => .panic) = .ok b ↔
      p + n ≤ bs.length ∧ k (p + n) = .ok b := by
  by_cases h : p + n ≤ bs.length <;> simp [cAdvance, h]

theorem commonCheck_np (bs : Bytes) : commonCheck bs ≠ .panic := by
  unfold commonCheck
  refine chain_np₂ (read_np _ _ 1) fun v p => ?_
  split
  · nofun
  · refine chain_np (cAdvance_np _ _ _) fun p => chain_np₂ (read_np _ _ 1) fun t p => ?_
    split <;> nofun

theorem pphCheck_np (bs : Bytes) (p : Nat) : pphCheck bs p ≠ .panic := by
  unfold pphCheck
  refine chain_np₂ (read_np _ _ 1) fun t p => ?_
  split
  · nofun
  · exact cAdvance_np _ _ _

theorem bothCheck_np (bs : Bytes) : bothCheck bs ≠ .panic :=
  chain_np (commonCheck_np bs) (pphCheck_np bs)

theorem statsLoop_np (bs : Bytes) (n p : Nat) : statsLoop bs n p ≠ .panic := by
  induction n generalizing p with
  | zero => simp [statsLoop]
  | succ n ih =>
    rw [statsLoop]
    exact chain_np (cAdvance_np _ _ _) fun _ => chain_np₂ (read_np _ _ 2) fun _ _ =>
      chain_np (cAdvance_np _ _ _) (ih ·)

theorem statsCheck_np (bs : Bytes) : statsCheck bs ≠ .panic :=
  chain_np (bothCheck_np bs) fun _ => chain_np₂ (read_np _ _ 4) fun _ _ => statsLoop_np _ _ _

theorem tlvLoop_np (bs : Bytes) (f p : Nat) : tlvLoop bs f p ≠ .panic := by
  induction f generalizing p with
  | zero => unfold tlvLoop; split <;> nofun
  | succ f ih =>
    rw [tlvLoop]
    split
    · nofun
    · exact chain_np (cAdvance_np _ _ _) fun _ => chain_np₂ (read_np _ _ 2) fun _ _ =>
      chain_np (cAdvance_np _ _ _) (ih ·)

theorem tlvCheck_np (bs : Bytes) (p : Nat) : tlvCheck bs p ≠ .panic := tlvLoop_np _ _ _

theorem initiationCheck_np (bs : Bytes) : initiationCheck bs ≠ .panic :=
  chain_np (commonCheck_np bs) (tlvCheck_np bs)

theorem routeMonitoringCheck_np (bs : Bytes) : routeMonitoringCheck bs ≠ .panic :=
  chain_np (bothCheck_np bs) (k := fun _ => .ok ()) nofun

/-- what the two embedded-message decoders must satisfy -/
structure Deps.Total (d : Deps) : Prop where
  open_np : ∀ bs, d.openParse bs ≠ .panic
  notif_np : ∀ bs, d.notifParse bs ≠ .panic
  open_le : ∀ bs n, d.openParse bs = .ok n → n ≤ bs.length

theorem peerDownCheck_np (d : Deps) (hd : d.Total) (bs : Bytes) : peerDownCheck d bs ≠ .panic := by
  unfold peerDownCheck
  refine chain_np (bothCheck_np bs) fun p => chain_np₂ (read_np _ _ 1) fun reason p => ?_
  split
  · split
    · nofun
    · exact chain_np (hd.notif_np _) (k := fun _ => .ok ()) nofun
  · split
    · exact chain_np (cAdvance_np _ _ _) (k := fun _ => .ok ()) nofun
    · nofun

theorem peerUpCheck_np (d : Deps) (hd : d.Total) (bs : Bytes) : peerUpCheck d bs ≠ .panic :=
  chain_np (bothCheck_np bs) fun _ => chain_np (cAdvance_np _ _ _) fun _ =>
    chain_np (hd.open_np _) fun _ => chain_np (hd.open_np _) fun _ => tlvCheck_np _ _

theorem checkKind_np (d : Deps) (hd : d.Total) (k : MsgKind) (bs : Bytes) : checkKind d k bs ≠ .panic := by
  cases k
  · exact routeMonitoringCheck_np bs
  · exact statsCheck_np bs
  · exact peerDownCheck_np d hd bs
  · exact peerUpCheck_np d hd bs
  · exact initiationCheck_np bs
  · exact initiationCheck_np bs
  · exact routeMonitoringCheck_np bs

/-! `advance 2; len = u16; advance len`: the body of both loops -/

theorem frame_then_ok {β} {bs : Bytes} {p : Nat} {k : Nat → Outcome β} {b : β} :
    (match cAdvance 2 bs p with
      | .ok p =>
        match cU16 bs p with
        | .ok (len, p) =>
          match cAdvance len bs p with
          | .ok p => k p
          | .err => .err
          | .panic => .panic
        | .err => .err
        | .panic => .panic
      | .err => .err
      | .panic => .panic) = .ok b ↔
      p + 4 + beAt bs (p + 2) 2 ≤ bs.length ∧ k (p + 4 + beAt bs (p + 2) 2) = .ok b := by
  refine cAdvance_then_ok.trans
    ((and_congr_right fun _ => (read_then_ok (n := 2)).trans (and_congr_right fun _ => cAdvance_then_ok)).trans ?_)
  rw [show p + 2 + 2 + beAt bs (p + 2) 2 = p + 4 + beAt bs (p + 2) 2 by omega]
  exact ⟨fun ⟨_, _, h⟩ => h, fun h => ⟨by omega, by omega, h⟩⟩

theorem statsLoop_succ_ok {bs : Bytes} {n p : Nat} :
    statsLoop bs (n + 1) p = .ok () ↔
      p + 4 + beAt bs (p + 2) 2 ≤ bs.length ∧ statsLoop bs n (p + 4 + beAt bs (p + 2) 2) = .ok () := by
  rw [statsLoop]
  exact frame_then_ok

theorem tlvLoop_succ_ok {bs : Bytes} {f p : Nat} :
    tlvLoop bs (f + 1) p = .ok () ↔
      bs.length ≤ p ∨
        p + 4 + beAt bs (p + 2) 2 ≤ bs.length ∧ tlvLoop bs f (p + 4 + beAt bs (p + 2) 2) = .ok () := by
  rw [tlvLoop]
  split
  · simp [*]
  · refine frame_then_ok.trans ⟨Or.inr, fun h => h.resolve_left ?_⟩
    assumption

theorem commonCheck_ok {bs : Bytes} {p : Nat} :
    commonCheck bs = .ok p ↔ p = 6 ∧ 6 ≤ bs.length ∧ beAt bs 0 1 = 3 ∧ beAt bs 5 1 ≤ 6 := by
  unfold commonCheck
  refine (read_then_ok (n := 1)).trans ?_
  by_cases hv : beAt bs 0 1 = 3
  · simp only [hv, ne_eq, not_true_eq_false, if_false]
    refine (and_congr_right fun _ => cAdvance_then_ok.trans (and_congr_right fun _ => (read_then_ok (n := 1)))).trans ?_
    by_cases ht : beAt bs 5 1 ≤ 6
    · simp [ht, Nat.not_lt.2 ht]; omega
    · simp [ht, Nat.lt_of_not_le ht]
  · simp [hv]

theorem pphCheck_ok {bs : Bytes} {p q : Nat} :
    pphCheck bs p = .ok q ↔ q = p + 42 ∧ p + 42 ≤ bs.length ∧ beAt bs p 1 ≤ 3 := by
  unfold pphCheck
  refine (read_then_ok (n := 1)).trans ?_
  by_cases ht : beAt bs p 1 ≤ 3
  · simp [ht, Nat.not_lt.2 ht, cAdvance_ok]; omega
  · simp [ht, Nat.lt_of_not_le ht]

theorem bothCheck_ok {bs : Bytes} {p : Nat} :
    bothCheck bs = .ok p ↔
      p = 48 ∧ 48 ≤ bs.length ∧ beAt bs 0 1 = 3 ∧ beAt bs 5 1 ≤ 6 ∧ beAt bs 6 1 ≤ 3 := by
  unfold bothCheck
  refine chain_ok.trans ?_
  simp only [commonCheck_ok, pphCheck_ok]
  constructor
  · rintro ⟨_, ⟨rfl, _, hv, ht⟩, rfl, hl, hp⟩
    exact ⟨rfl, hl, hv, ht, hp⟩
  · rintro ⟨rfl, hl, hv, ht, hp⟩
    exact ⟨6, ⟨rfl, by omega, hv, ht⟩, rfl, hl, hp⟩

theorem bothCheck_then_ok {β} {bs : Bytes} {k : Nat → Outcome β} {b : β} :
    (match bothCheck bs with | .ok p => k p | .err => .err | .panic => .panic) = .ok b ↔
      bothCheck bs = .ok 48 ∧ k 48 = .ok b := by
  refine chain_ok.trans ⟨?_, fun h => ⟨48, h⟩⟩
  rintro ⟨p, hp, hk⟩
  obtain rfl := (bothCheck_ok.1 hp).1
  exact ⟨hp, hk⟩

theorem checkKind_pph_len {d : Deps} {k : MsgKind} {bs : Bytes} (h : checkKind d k bs = .ok ())
    (h1 : k ≠ .initiation) (h2 : k ≠ .termination) : 48 ≤ bs.length := by
  cases k with
  | initiation => exact absurd rfl h1
  | termination => exact absurd rfl h2
  | _ => exact (bothCheck_ok.1 (bothCheck_then_ok.1 h).1).2.1

theorem statsCheck_ok {bs : Bytes} :
    statsCheck bs = .ok () ↔
      bothCheck bs = .ok 48 ∧ 52 ≤ bs.length ∧ statsLoop bs (beAt bs 48 4) 52 = .ok () :=
  bothCheck_then_ok.trans (and_congr_right fun _ => (read_then_ok (n := 4)))

theorem routeMonitoringCheck_ok {bs : Bytes} : routeMonitoringCheck bs = .ok () ↔ bothCheck bs = .ok 48 :=
  bothCheck_then_ok.trans (and_iff_left rfl)

theorem initiationCheck_ok {bs : Bytes} :
    initiationCheck bs = .ok () ↔ commonCheck bs = .ok 6 ∧ tlvCheck bs 6 = .ok () := by
  refine chain_ok.trans ⟨?_, fun h => ⟨6, h⟩⟩
  rintro ⟨p, hp, hk⟩
  obtain rfl := (commonCheck_ok.1 hp).1
  exact ⟨hp, hk⟩

theorem common_accessors_np {bs : Bytes} (h : 6 ≤ bs.length) :
    chVersion bs ≠ .panic ∧ chLength bs ≠ .panic ∧ chMsgType bs ≠ .panic ∧ debugLen bs ≠ .panic := by
  have hl : rdBE bs 1 4 = .ok (beAt bs 1 4) := rdBE_ok (by omega)
  refine ⟨?_, ?_, ?_, ?_⟩
  · rw [chVersion, idx_ok (by omega)]; nofun
  · rw [chLength, hl]; nofun
  · rw [chMsgType, idx_ok (by omega)]; nofun
  · rw [debugLen, chLength, hl]
    dsimp only
    rw [slice_ok (Nat.zero_le _) (Nat.min_le_right ..)]
    nofun

theorem pph_ok {bs : Bytes} (h : 48 ≤ bs.length) : ∃ p, pph bs = .ok p := by
  rw [pph, slice_ok (by omega) h]
  generalize hh : List.take (48 - 6) (List.drop 6 bs) = hd
  have hl : hd.length = 42 := by subst hh; simp; omega
  -- every read is at fixed offsets inside the 42 octets: the bounds are comparisons of numerals
  simp only [idx, slice, rdBE, hl, Nat.reduceAdd, Nat.reduceLeDiff, if_true, and_self]
  generalize (beAt hd 1 1 / 128 % 2 == 1) = v6
  cases v6 <;> exact ⟨_, rfl⟩

theorem getStat_frame {bs : Bytes} {p : Nat} (h : p + 4 + beAt bs (p + 2) 2 ≤ bs.length) :
    getStat bs p = .ok
      (if isU32Stat (beAt bs p 2) ∧ beAt bs (p + 2) 2 = 4 then .u32 (beAt bs p 2) (beAt bs (p + 4) 4)
        else if isU64Stat (beAt bs p 2) ∧ beAt bs (p + 2) 2 = 8 then .u64 (beAt bs p 2) (beAt bs (p + 4) 8)
        else if isAfiSafiStat (beAt bs p 2) ∧ beAt bs (p + 2) 2 = 11 then
          .afiSafi (beAt bs p 2) (beAt bs (p + 4) 2) (beAt bs (p + 6) 1) (beAt bs (p + 7) 8)
        else .unimplemented (beAt bs p 2) (beAt bs (p + 2) 2),
       p + 4 + beAt bs (p + 2) 2) := by
  unfold getStat
  rw [rdBE_ok (bs := bs) (a := p) (n := 2) (by omega), rdBE_ok (bs := bs) (a := p + 2) (n := 2) (by omega)]
  dsimp only
  split
  · rename_i hc
    rw [rdBE_ok (by omega), hc.2]
  · split
    · rename_i hc
      rw [rdBE_ok (by omega), hc.2]
    · split
      · rename_i hc
        rw [rdBE_ok (by omega), idx_ok (by omega), rdBE_ok (by omega), hc.2]
      · rfl

theorem statIter_of_statsLoop {bs : Bytes} (n p : Nat) (h : statsLoop bs n p = .ok ()) :
    ∃ l, statIter bs n p = .ok l ∧ l.length = n := by
  induction n generalizing p with
  | zero => exact ⟨[], rfl, rfl⟩
  | succ n ih =>
    obtain ⟨hle, h⟩ := statsLoop_succ_ok.1 h
    obtain ⟨l, hl, hlen⟩ := ih _ h
    exact ⟨_, by rw [statIter, getStat_frame hle]; simp only [hl]; rfl, by simp [hlen]⟩

theorem stats_of_check {bs : Bytes} (h : statsCheck bs = .ok ()) :
    ∃ n l, statsCount bs = .ok n ∧ stats bs = .ok l ∧ l.length = n := by
  obtain ⟨-, hl, h⟩ := statsCheck_ok.1 h
  obtain ⟨l, hs, hlen⟩ := statIter_of_statsLoop _ _ h
  have hc : statsCount bs = .ok (beAt bs 48 4) := rdBE_ok (by simp only [COFF]; omega)
  refine ⟨_, l, hc, ?_, hlen⟩
  unfold stats
  rw [hc, sliceFrom_ok (by simp only [COFF]; omega)]
  exact hs

theorem infoTlvIter_step {bs : Bytes} {f p : Nat} (h : p + 4 + beAt bs (p + 2) 2 ≤ bs.length) :
    infoTlvIter bs (f + 1) p = infoTlvIter bs f (p + 4 + beAt bs (p + 2) 2) >>= fun l =>
      .ok ((beAt bs p 2, beAt bs (p + 2) 2, (bs.drop (p + 4)).take (beAt bs (p + 2) 2)) :: l) := by
  rw [infoTlvIter, if_neg (by omega), rdBE_ok (by omega)]
  dsimp only
  rw [slice_ok (by omega) (by omega), show p + 4 + beAt bs (p + 2) 2 - p = 4 + beAt bs (p + 2) 2 by omega]
  dsimp only
  -- the iterator has cut the TLV out and reads inside the cut
  have hl : ((bs.drop p).take (4 + beAt bs (p + 2) 2)).length = 4 + beAt bs (p + 2) 2 := by
    simp only [List.length_take, List.length_drop]; omega
  rw [rdBE_ok (by omega), rdBE_ok (a := 2) (by omega), sliceFrom_ok (by omega),
    beAt_slice (by omega), beAt_slice (by omega), List.drop_take, List.drop_drop]
  dsimp only
  rw [show p + (beAt bs (p + 2) 2 + 4) = p + 4 + beAt bs (p + 2) 2 by omega,
    show 4 + beAt bs (p + 2) 2 - 4 = beAt bs (p + 2) 2 by omega]
  cases infoTlvIter bs f (p + 4 + beAt bs (p + 2) 2) <;> rfl

theorem infoTlvIter_of_tlvLoop {bs : Bytes} (f p : Nat) (hp : p ≤ bs.length) (h : tlvLoop bs f p = .ok ()) :
    ∃ l, infoTlvIter bs f p = .ok l := by
  induction f generalizing p with
  | zero =>
    unfold tlvLoop at h
    split at h
    · exact ⟨[], by simp [infoTlvIter]; omega⟩
    · simp at h
  | succ f ih =>
    by_cases hend : p = bs.length
    · exact ⟨[], by rw [infoTlvIter, if_pos hend]⟩
    · obtain ⟨hle, h⟩ := (tlvLoop_succ_ok.1 h).resolve_left (by omega)
      obtain ⟨l, hl⟩ := ih _ (by omega) h
      exact ⟨_, by rw [infoTlvIter_step hle, hl]; rfl⟩

theorem termIter_step {bs : Bytes} {f p : Nat} (h : p + 4 + beAt bs (p + 2) 2 ≤ bs.length) :
    termIter bs (f + 1) p = termIter bs f (p + 4 + beAt bs (p + 2) 2) >>= fun l =>
      .ok ((if beAt bs p 2 = 0 then .customString ((bs.drop (p + 4)).take (beAt bs (p + 2) 2))
        else if beAt bs (p + 2) 2 = 2 then .reason (beNat ((bs.drop (p + 4)).take (beAt bs (p + 2) 2)))
        else .undefinedTlv (beAt bs p 2)) :: l) := by
  rw [termIter, if_neg (by omega), rdBE_ok (by omega), rdBE_ok (by omega)]
  dsimp only
  rw [slice_ok (by omega) (by omega), show p + 4 + beAt bs (p + 2) 2 - (p + 4) = beAt bs (p + 2) 2 by omega]
  cases termIter bs f (p + 4 + beAt bs (p + 2) 2) <;> rfl

theorem termIter_of_tlvLoop {bs : Bytes} (f p : Nat) (hp : p ≤ bs.length) (h : tlvLoop bs f p = .ok ()) :
    ∃ l, termIter bs f p = .ok l := by
  induction f generalizing p with
  | zero =>
    unfold tlvLoop at h
    split at h
    · exact ⟨[], by simp [termIter]; omega⟩
    · simp at h
  | succ f ih =>
    by_cases hend : p = bs.length
    · exact ⟨[], by rw [termIter, if_pos hend]⟩
    · obtain ⟨hle, h⟩ := (tlvLoop_succ_ok.1 h).resolve_left (by omega)
      obtain ⟨l, hl⟩ := ih _ (by omega) h
      exact ⟨_, by rw [termIter_step hle, hl]; rfl⟩

end Rc.Bmp
