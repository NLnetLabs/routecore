/-
Lemmas for the wire clauses of C06: the octets `finish` writes for a message of
a builder over one of the 26 NLRI types (Rc/Model/BuilderWire.lean) are the
output of C01's reference encoder on the content of the message, so that the
decoder theorems of C01 (Rc/Lemmas/UpdateRaw.lean) and the NLRI round trips of
C05 apply to them.  Nothing here is a property statement.
-/
import Rc.Lemmas.Builder
import Rc.Lemmas.UpdateRaw
import Rc.Lemmas.UpdateMp
import Rc.Model.BuilderWire

namespace Rc.Builder
open Rc Rc.Nlri

private def encOr {α : Type} (c : Codec α) (x : α) : Bytes := okOr (c.enc x)

private theorem encAll_flatMap {α : Type} {c : Codec α} (hl : c.Laws) (l : List α)
    (hw : ∀ x ∈ l, c.wf x = true) :
    encAll c l = .ok (l.flatMap (encOr c)) ∧ ∀ x ∈ l, (encOr c x).length = c.clen x := by
  induction l with
  | nil => exact ⟨rfl, by simp⟩
  | cons a t ih =>
    obtain ⟨hwa, hwt⟩ := List.forall_mem_cons.1 hw
    obtain ⟨bs, hb, _⟩ := hl.enc_ok a hwa
    obtain ⟨iht, ihl⟩ := ih hwt
    have ha : encOr c a = bs := by simp [encOr, okOr, hb]
    exact ⟨by simp [encAll, hb, iht, List.flatMap_cons, ha],
      List.forall_mem_cons.2 ⟨by rw [ha, hl.len_eq a bs (hl.wf_inv a hwa) hb], ihl⟩⟩

/-- under C05's well-formedness the octets `compose` writes for the NLRI of a
list, one after the other, are the encoded list, and each NLRI takes the
`compose_len()` octets the splitter counts -/
theorem nlris_flatMap (f : Fam) (ap : Bool) (l : List (NV f)) (hw : Upd.NlrisWf f ap l) :
    Upd.encNlris f ap l = .ok (l.flatMap (nlriEnc f ap)) ∧
      ∀ x ∈ l, (nlriEnc f ap x).length = nlriSz f ap x := by
  cases ap with
  | true =>
    simp only [Upd.NlrisWf, ↓reduceIte] at hw
    obtain ⟨h1, h2⟩ := encAll_flatMap (Nlri.codecAp_laws f) l hw
    refine ⟨?_, fun x hx => by simpa [nlriEnc, nlriSz, encOr] using h2 x hx⟩
    simp only [Upd.encNlris, ↓reduceIte, h1]
    rfl
  | false =>
    simp only [Upd.NlrisWf, Bool.false_eq_true, ↓reduceIte] at hw
    obtain ⟨h1, h2⟩ := encAll_flatMap (Nlri.codec_laws f) (l.map (·.2))
      (by intro n hn; obtain ⟨x, hx, rfl⟩ := List.mem_map.1 hn; exact hw x hx)
    refine ⟨?_, fun x hx => by simpa [nlriEnc, nlriSz, encOr] using h2 x.2 (List.mem_map.2 ⟨x, hx, rfl⟩)⟩
    simp only [Upd.encNlris, Bool.false_eq_true, ↓reduceIte, h1, List.flatMap_map]
    rfl

theorem encNlris_nil (f : Fam) (ap : Bool) : Upd.encNlris f ap [] = .ok [] := by
  cases ap <;> rfl

theorem reportNlris_nil (f : Fam) (ap : Bool) : Upd.reportNlris f ap [] = [] := by
  cases ap <;> rfl

theorem anyNlris_nil (f : Fam) (ap : Bool) : Upd.anyNlris f ap [] = [] := by
  cases ap <;> rfl

theorem attrHeader_length (t : UInt8) (v : Nat) : (attrHeader t v).length = hdrLen v := by
  unfold attrHeader hdrLen; split <;> rfl

theorem attrSection_length {N : Type} (sz : N → Nat) (W : Wire N) (others : Bytes) (m : Msg N)
    (hr : ∀ l nh, m.ann = some (l, nh) → (reachValue W l nh).length = reachValueLen sz l nh)
    (hu : ∀ l, m.wd = some l → (unreachValue W l).length = unreachValueLen sz l)
    (ho : others.length = attrsLen m.attrs) :
    (attrSection sz W others m).length = m.actualAttrLen sz := by
  unfold attrSection
  rw [actualAttrLen_eq, List.length_append, List.length_append, ho]
  congr 2
  · rcases hm : m.ann with _ | ⟨l, nh⟩
    · rfl
    · simp only [List.length_append, attrHeader_length, hr l nh hm]; rfl
  · rcases hw : m.wd with _ | l
    · rfl
    · simp only [List.length_append, attrHeader_length, hu l hw]; rfl

theorem reachValue_eq (f : Fam) (ap : Bool) (nhb : NextHop → Bytes) (l : List (NV f)) (nh : NextHop) :
    reachValue (wireOf f ap nhb) l nh = Upd.reachValue f (nhb nh) (l.flatMap (nlriEnc f ap)) := by
  simp [reachValue, Upd.reachValue, wireOf, afiSafiBytes, List.append_assoc]

theorem unreachValue_eq (f : Fam) (ap : Bool) (nhb : NextHop → Bytes) (l : List (NV f)) :
    unreachValue (wireOf f ap nhb) l = Upd.unreachValue f (l.flatMap (nlriEnc f ap)) := by
  simp [unreachValue, Upd.unreachValue, wireOf, afiSafiBytes, List.append_assoc]

theorem extBit_mpFlags (n : Nat) : Attr.extBit (mpFlags n) = decide (n > 255) := by
  unfold mpFlags
  split
  · rename_i h; simp only [h, decide_true]; decide
  · rename_i h; simp only [h, decide_false]; decide

/-- `Attribute::compose` of an MP attribute is the TLV encoding of its value -/
theorem attrHeader_encRaw (tc : UInt8) (v : Bytes) :
    attrHeader tc v.length ++ v = Upd.encRaw { fl := mpFlags v.length, tc := tc, v := v } := by
  unfold attrHeader Upd.encRaw
  simp only [extBit_mpFlags]
  by_cases h : v.length > 255
  · simp [h, mpFlags]
  · simp [h, mpFlags]

/-- What is asked of the concrete parts of a message `m` of a builder for NLRI
type (`f`, `ap`): its NLRI are values `compose` accepts (C05's `wf`: exactly what
a parser returns), the next-hop octets have the length `compose_len` counts, the
attribute map composes to well-formed TLVs none of which is MP_REACH_NLRI /
MP_UNREACH_NLRI (`from_attributes_builder` drops those), of the total length the
model's attribute list says. -/
structure MsgWf (f : Fam) (ap : Bool) (nhb : NextHop → Bytes) (others : List Upd.RawAttr)
    (m : Msg (NV f)) : Prop where
  wd : Upd.NlrisWf f ap m.wdList
  ann : Upd.NlrisWf f ap m.annList
  nh : ∀ nh, (nhb nh).length + 1 = nh.composeLen
  others_wf : ∀ a ∈ others, a.wf = true
  others_mp : ∀ a ∈ others, a.tc.toNat ≠ 14 ∧ a.tc.toNat ≠ 15
  attrs : attrsLen m.attrs = (Upd.encRaws others).length

variable {f : Fam} {ap : Bool} {nhb : NextHop → Bytes} {others : List Upd.RawAttr} {m : Msg (NV f)}

theorem nlris_length {l : List (NV f)} (hw : Upd.NlrisWf f ap l) :
    (l.flatMap (nlriEnc f ap)).length = sumSz (nlriSz f ap) l :=
  sumSz_flatMap _ _ l (nlris_flatMap f ap l hw).2

theorem MsgWf.reachLen (h : MsgWf f ap nhb others m) {l : List (NV f)} {nh : NextHop} (hm : m.ann = some (l, nh)) :
    (reachValue (wireOf f ap nhb) l nh).length = reachValueLen (nlriSz f ap) l nh ∧
    (l.flatMap (nlriEnc f ap)).length = sumSz (nlriSz f ap) l ∧
    Upd.encNlris f ap l = .ok (l.flatMap (nlriEnc f ap)) := by
  have ha : Upd.NlrisWf f ap l := by simpa only [Msg.annList, hm] using h.ann
  have h3 := nlris_length ha
  have h4 := h.nh nh
  refine ⟨?_, h3, (nlris_flatMap f ap l ha).1⟩
  rw [reachValue_eq]
  simp only [Upd.reachValue, List.length_append, be16_length, List.length_cons, h3, reachValueLen]
  omega

theorem MsgWf.unreachLen (h : MsgWf f ap nhb others m) {l : List (NV f)} (hm : m.wd = some l) :
    (unreachValue (wireOf f ap nhb) l).length = unreachValueLen (nlriSz f ap) l ∧
    (l.flatMap (nlriEnc f ap)).length = sumSz (nlriSz f ap) l ∧
    Upd.encNlris f ap l = .ok (l.flatMap (nlriEnc f ap)) := by
  have ha : Upd.NlrisWf f ap l := by simpa only [Msg.wdList, hm, Option.getD_some] using h.wd
  have h3 := nlris_length ha
  refine ⟨?_, h3, (nlris_flatMap f ap l ha).1⟩
  rw [unreachValue_eq]
  simp only [Upd.unreachValue, List.length_append, be16_length, List.length_cons, h3, unreachValueLen]
  omega

/-- the attribute section `finish` writes is the TLV encoding of `rawAttrs` -/
theorem attrSection_eq (h : MsgWf f ap nhb others m) :
    attrSection (nlriSz f ap) (wireOf f ap nhb) (Upd.encRaws others) m =
      Upd.encRaws (rawAttrs f ap nhb others m) := by
  unfold attrSection rawAttrs
  rw [Upd.encRaws_append, Upd.encRaws_append]
  congr 2
  · rcases hm : m.ann with _ | ⟨l, nh⟩
    · rfl
    · rw [Upd.encRaws_cons, reachAttr, ← attrHeader_encRaw, (h.reachLen hm).1]; exact (List.append_nil _).symm
  · rcases hw : m.wd with _ | l
    · rfl
    · rw [Upd.encRaws_cons, unreachAttr, ← attrHeader_encRaw, (h.unreachLen hw).1]; exact (List.append_nil _).symm

/-- ... and has the length the model's `actualAttrLen` counts -/
theorem rawAttrs_length (h : MsgWf f ap nhb others m) :
    (Upd.encRaws (rawAttrs f ap nhb others m)).length = m.actualAttrLen (nlriSz f ap) := by
  rw [← attrSection_eq h]
  exact attrSection_length _ _ _ _ (fun _ _ hm => (h.reachLen hm).1) (fun _ hw => (h.unreachLen hw).1)
    h.attrs.symm

/-- the two length fields are the lengths of what follows them -/
def FieldsOk (sz : NV f → Nat) (m : Msg (NV f)) : Prop :=
  m.lenField ≤ MAX_PDU ∧ m.lenField = m.actualLen sz ∧ m.attrLenField = m.actualAttrLen sz

/-- the octets of a message are RFC 4271's framing (C01's `frame`) of an empty withdrawn-routes
section, the TLV encoding of `rawAttrs`, and no conventional NLRI -/
theorem wireBytes_eq_frame (h : MsgWf f ap nhb others m) (hf : FieldsOk (nlriSz f ap) m) :
    wireBytes f ap nhb others m = Upd.frame [] (Upd.encRaws (rawAttrs f ap nhb others m)) [] := by
  obtain ⟨_, h1, h2⟩ := hf
  have hl := rawAttrs_length h
  unfold wireBytes wireImage Upd.frame Upd.marker
  rw [attrSection_eq h, h1, h2]
  unfold Msg.actualLen
  rw [← hl]
  simp only [List.length_nil, List.append_nil, List.nil_append, List.append_assoc, List.cons_append,
    Nat.add_zero, Nat.reduceAdd]

theorem mem_rawAttrs {a : Upd.RawAttr} (ha : a ∈ rawAttrs f ap nhb others m) :
    (∃ l nh, m.ann = some (l, nh) ∧ a = reachAttr f ap nhb l nh) ∨
    (∃ l, m.wd = some l ∧ a = unreachAttr f ap nhb l) ∨ a ∈ others := by
  unfold rawAttrs at ha
  rw [List.mem_append, List.mem_append] at ha
  rcases ha with (ha | ha) | ha
  · rcases hm : m.ann with _ | ⟨l, nh⟩ <;> rw [hm] at ha
    · cases ha
    · exact .inl ⟨l, nh, rfl, List.mem_singleton.1 ha⟩
  · rcases hw : m.wd with _ | l <;> rw [hw] at ha
    · cases ha
    · exact .inr (.inl ⟨l, rfl, List.mem_singleton.1 ha⟩)
  · exact .inr (.inr ha)

theorem rawAttrs_wf (h : MsgWf f ap nhb others m) (hf : FieldsOk (nlriSz f ap) m) :
    ∀ a ∈ rawAttrs f ap nhb others m, a.wf = true := by
  obtain ⟨hle, h1, _⟩ := hf
  -- an MP value is shorter than the whole PDU, which has at most 4096 octets
  have hA := actualAttrLen_eq (nlriSz f ap) m
  unfold Msg.actualLen MAX_PDU at *
  intro a ha
  rcases mem_rawAttrs ha with ⟨l, nh, hm, rfl⟩ | ⟨l, hw, rfl⟩ | ho
  · have := (h.reachLen hm).1
    rw [hm] at hA
    exact Upd.Raw.mp_wf 14 _ (by simp only [optReachLen, reachLen] at hA; omega)
  · have := (h.unreachLen hw).1
    rw [hw] at hA
    exact Upd.Raw.mp_wf 15 _ (by simp only [optUnreachLen, unreachLen] at hA; omega)
  · exact h.others_wf a ho

theorem rawAttrs_mpOk (h : MsgWf f ap nhb others m) : Upd.MpOk (rawAttrs f ap nhb others m) := by
  intro a ha
  rcases mem_rawAttrs ha with ⟨l, nh, _, rfl⟩ | ⟨l, _, rfl⟩ | ho
  · refine ⟨fun _ => ?_, fun x => absurd x (by show ¬ (14 : UInt8).toNat = 15; decide)⟩
    simp only [reachAttr, reachValue_eq, Upd.afiSafi_reach, Option.isSome_some, and_true]
    simp [Upd.reachValue]; omega
  · refine ⟨fun x => absurd x (by show ¬ (15 : UInt8).toNat = 14; decide), fun _ => ?_⟩
    simp only [unreachAttr, unreachValue_eq, Upd.afiSafi_unreach, Option.isSome_some]
  · exact ⟨fun x => absurd x (h.others_mp a ho).1, fun x => absurd x (h.others_mp a ho).2⟩

theorem contentOf_wf (cfg : Upd.Cfg) (h : MsgWf f ap nhb others m) (hf : FieldsOk (nlriSz f ap) m) :
    Upd.WfUpdate cfg (contentOf f ap nhb others m) := by
  refine ⟨?_, ?_, rawAttrs_wf h hf, rawAttrs_mpOk h⟩ <;>
    (unfold Upd.NlrisWf contentOf; split <;> simp)

/-- the reference encoder of C01 on the content of a message produces exactly
the octets of the message -/
theorem encUpdate_contentOf (cfg : Upd.Cfg) (h : MsgWf f ap nhb others m) (hf : FieldsOk (nlriSz f ap) m) :
    Upd.encUpdate cfg (contentOf f ap nhb others m) = .ok (wireBytes f ap nhb others m) := by
  rw [wireBytes_eq_frame h hf]
  simp only [Upd.encUpdate, contentOf, Upd.encNlris]
  cases cfg.rx (1, 1) <;> simp [encAll]

/-- first MP_REACH_NLRI / MP_UNREACH_NLRI of the sequence, and the AFI/SAFI the
second attribute loop of the parser records -/
theorem rawAttrs_mp (h : MsgWf f ap nhb others m) :
    (Upd.firstWith 14 (rawAttrs f ap nhb others m) =
      match m.ann with | some (l, nh) => some (reachAttr f ap nhb l nh) | none => none) ∧
    (Upd.firstWith 15 (rawAttrs f ap nhb others m) =
      match m.wd with | some l => some (unreachAttr f ap nhb l) | none => none) ∧
    (Upd.lastMp 14 (rawAttrs f ap nhb others m) none =
      match m.ann with | some _ => some (Upd.famCode f) | none => none) ∧
    (Upd.lastMp 15 (rawAttrs f ap nhb others m) none =
      match m.wd with | some _ => some (Upd.famCode f) | none => none) := by
  have o14 := Upd.firstWith_none 14 others (fun a ha => (h.others_mp a ha).1)
  have o15 := Upd.firstWith_none 15 others (fun a ha => (h.others_mp a ha).2)
  have l14 := fun acc => Upd.lastMp_none 14 others acc (fun a ha => (h.others_mp a ha).1)
  have l15 := fun acc => Upd.lastMp_none 15 others acc (fun a ha => (h.others_mp a ha).2)
  unfold rawAttrs
  rcases m.ann with _ | ⟨l, nh⟩ <;> rcases m.wd with _ | w <;>
    simp [Upd.firstWith, Upd.lastMp, o14, o15, l14, l15, reachAttr, unreachAttr, reachValue_eq, unreachValue_eq,
      Upd.afiSafi_reach, Upd.afiSafi_unreach]

/-- the facts about a parsed message `u` that the MP accessors depend on -/
structure Parsed (cfg : Upd.Cfg) (f : Fam) (ap : Bool) (nhb : NextHop → Bytes) (others : List Upd.RawAttr)
    (m : Msg (NV f)) (u : Upd.Msg) : Prop where
  attrs : u.attrs = Upd.encRaws (rawAttrs f ap nhb others m)
  ppi : u.ppi = Upd.Ppi.ofCfg cfg (Upd.lastMp 14 (rawAttrs f ap nhb others m) none)
    (Upd.lastMp 15 (rawAttrs f ap nhb others m) none)
  convWd : u.convWd = ([], true)
  convAnn : u.convAnn = ([], true)

variable {cfg : Upd.Cfg} {u : Upd.Msg}

theorem collect_reportNlris (l : List (NV f)) :
    Upd.collectResult (Upd.reportNlris f ap l) = .ok (Upd.anyNlris f ap l) := by
  rw [Upd.reportNlris_eq]
  exact Upd.collectResult_map_ok _

/-- `announcements()`, `announcements_vec()` and `mp_next_hop()` of the parsed message -/
theorem Parsed.ann (hp : Parsed cfg f ap nhb others m u) (hcfg : cfg.rx (Upd.famCode f) = ap)
    (h : MsgWf f ap nhb others m) (hf : FieldsOk (nlriSz f ap) m) :
    u.announcements = .ok (Upd.reportNlris f ap m.annList, true) ∧
    u.annVec = .ok (Upd.anyNlris f ap m.annList) ∧
    (match m.ann with
     | some (_, nh) => ∀ x, Upd.nhSpec f (nhb nh) = some x → u.mpNextHop = .ok (some x)
     | none => u.mpNextHop = .ok none) := by
  have hwf := rawAttrs_wf h hf
  obtain ⟨hfirst, _, hlast, _⟩ := rawAttrs_mp h
  rcases hm : m.ann with _ | ⟨l, nh⟩ <;> rw [hm] at hfirst hlast <;> simp only [Msg.annList, hm]
  · have ha := Upd.Raw.mpAttr_absent u _ hp.attrs hwf 14 hfirst
    simp [Upd.Msg.announcements, Upd.Msg.annVec, Upd.Msg.mpAnn, Upd.Msg.mpNextHop, Upd.Msg.mpNextHopTuple, ha,
      Upd.itemsOfOpt, hp.convAnn, reportNlris_nil, anyNlris_nil, Upd.collectResult, Upd.mapO]
  · -- the session's ADD-PATH setting for the family is the one the NLRI were composed with
    have hR : u.ppi.mpReach = ap := by rw [hp.ppi, hlast]; simpa [Upd.Ppi.ofCfg] using hcfg
    subst hR
    have hnh : (nhb nh).length < 256 := by have := h.nh nh; have := composeLen_le nh; omega
    have hl : m.annList = l := by rw [Msg.annList, hm]
    obtain ⟨b, hb, hres⟩ := Upd.Raw.mp_reach_reported u _ hp.attrs hwf _ hfirst f (nhb nh) hnh l (hl ▸ h.ann)
    cases (h.reachLen hm).2.2.symm.trans hb
    obtain ⟨h1, h2, _⟩ := hres (by simp only [reachAttr, reachValue_eq])
    refine ⟨?_, ?_, fun x hs => ?_⟩
    · simp [Upd.Msg.announcements, h1, Upd.itemsOfOpt, h2, hp.convAnn]
    · simp only [Upd.Msg.annVec, h1, Upd.itemsOfOpt, h2, hp.convAnn, List.nil_append, collect_reportNlris]
    · have hattr := Upd.Raw.mpAttr_enc u _ hp.attrs hwf 14 _ hfirst _ (by
        simpa only [reachAttr, reachValue_eq] using Upd.afiSafi_reach f (nhb nh) (l.flatMap (nlriEnc f u.ppi.mpReach)))
      have hpn := Upd.Raw.next_hop_reported f (nhb nh) (0 :: l.flatMap (nlriEnc f u.ppi.mpReach)) x hnh hs
      simp [Upd.Msg.mpNextHop, Upd.Msg.mpNextHopTuple, hattr, Upd.famOf_famCode, hpn, Upd.mapO]

/-- `withdrawals()` and `withdrawals_vec()` of the parsed message -/
theorem Parsed.wd (hp : Parsed cfg f ap nhb others m u) (hcfg : cfg.rx (Upd.famCode f) = ap)
    (h : MsgWf f ap nhb others m) (hf : FieldsOk (nlriSz f ap) m) :
    u.withdrawals = .ok (Upd.reportNlris f ap m.wdList, true) ∧
    u.wdVec = .ok (Upd.anyNlris f ap m.wdList) := by
  have hwf := rawAttrs_wf h hf
  obtain ⟨_, hfirst, _, hlast⟩ := rawAttrs_mp h
  rcases hm : m.wd with _ | l <;> rw [hm] at hfirst hlast <;>
    simp only [Msg.wdList, hm, Option.getD_some, Option.getD_none]
  · have ha := Upd.Raw.mpAttr_absent u _ hp.attrs hwf 15 hfirst
    simp [Upd.Msg.withdrawals, Upd.Msg.wdVec, Upd.Msg.mpWd, ha,
      Upd.itemsOfOpt, hp.convWd, reportNlris_nil, anyNlris_nil, Upd.collectResult]
  · have hR : u.ppi.mpUnreach = ap := by rw [hp.ppi, hlast]; simpa [Upd.Ppi.ofCfg] using hcfg
    subst hR
    have hl : m.wdList = l := by rw [Msg.wdList, hm]; rfl
    obtain ⟨b, hb, hres⟩ := Upd.Raw.mp_unreach_reported u _ hp.attrs hwf _ hfirst f l (hl ▸ h.wd)
    cases (h.unreachLen hm).2.2.symm.trans hb
    obtain ⟨h1, h2, _⟩ := hres (by simp only [unreachAttr, unreachValue_eq])
    constructor
    · simp [Upd.Msg.withdrawals, h1, Upd.itemsOfOpt, h2, hp.convWd]
    · simp only [Upd.Msg.wdVec, h1, Upd.itemsOfOpt, h2, hp.convWd, List.nil_append, collect_reportNlris]

theorem wireBytes_length (h : MsgWf f ap nhb others m) (hf : FieldsOk (nlriSz f ap) m) :
    (wireBytes f ap nhb others m).length = m.lenField := by
  rw [wireBytes_eq_frame h hf, Upd.Raw.frame_length, rawAttrs_length h, hf.2.1]
  unfold Msg.actualLen
  simp

/-- **the decoder model accepts the octets of a message** and finds the three
sections and the attribute sequence that were written -/
theorem msg_parsed (cfg : Upd.Cfg) (h : MsgWf f ap nhb others m) (hf : FieldsOk (nlriSz f ap) m) :
    ∃ u, Upd.parseUpdate cfg (wireBytes f ap nhb others m) = .ok u ∧ Parsed cfg f ap nhb others m u ∧
      u.length = m.lenField ∧ u.wd = [] ∧ u.ann = [] ∧ u.wdLen = 0 ∧ u.attrLen = m.attrLenField ∧
      u.pathAttributes = ((rawAttrs f ap nhb others m).map (Upd.reportAttr cfg.four), true) := by
  obtain ⟨bs, hbs, hdec⟩ := Upd.Raw.decode_encode_partial cfg _ (contentOf_wf cfg h hf)
  rw [encUpdate_contentOf cfg h hf] at hbs
  injection hbs with hbs
  subst hbs
  have hlen := wireBytes_length h hf
  have hle : m.lenField ≤ 4096 := hf.1
  obtain ⟨u, hp, hl, ⟨w, a, hw, ha, hwd, hann, hwl⟩, hal, hcw, hca, hpa, hattrs, hppi⟩ := hdec (by omega) []
  cases (encNlris_nil _ _).symm.trans hw
  cases (encNlris_nil _ _).symm.trans ha
  rw [List.append_nil] at hp
  refine ⟨u, hp, ⟨hattrs, hppi, ?_, ?_⟩, by omega, hwd, hann, by simpa using hwl, ?_, hpa⟩
  · rw [hcw]; simp only [contentOf, Prod.mk.injEq, and_true]; exact reportNlris_nil _ _
  · rw [hca]; simp only [contentOf, Prod.mk.injEq, and_true]; exact reportNlris_nil _ _
  · rw [hal, hf.2.2]; exact rawAttrs_length h

theorem encRaws_length_sum (l : List Upd.RawAttr) :
    (Upd.encRaws l).length = attrsLen (l.map fun a => (Upd.encRaw a).length) := by
  induction l with
  | nil => rfl
  | cons a t ih => simp [Upd.encRaws_cons, attrsLen, ih] at *

end Rc.Builder
