/-
Iterator protocol: HOW an iterator is consumed does not matter - for the DEFAULT methods.

The models of routecore's iterators are `next` functions (`commNext`, `nlriNext`, `paNext`,
`ribNext`, ...) and the observers `collect` / `drain` call `next` until it answers `None`.
Rust code may consume the same iterator through `count()`, `last()`, `nth(k)`, `skip(k)`,
`step_by(k)`, `fold`, `by_ref().take(j)` followed by any of these, `peekable()` ...  As long as a
type only implements `next`, all of these are the default methods of `core::iter::Iterator`
(resp. the std adaptors `Skip`, `StepBy`, `Take`, `Peekable` driving the inner iterator through
its `next` / `nth`), and each of them is a function of the `next()` sequence.  This file states
that once, for an arbitrary `next : σ → Option (ι × σ)`:

  `Ends next s l`   – calling `next` from state `s` yields the items `l` and then `None`
  `protocol_of_ends : Ends next s l → Protocol next s l`
                     – count = |l|, last = l.getLast?, fold = foldl, nth k = l[k]? (and the rest after it is
                       l.drop (k+1)), skip k yields l.drop k, step_by (k+1) yields every (k+1)-th item,
                       after j calls of next (by_ref().take(j)) the rest is l.drop j (to which the
                       same applies again).
  `peek_count`       – `peekable()`: peek-then-count = count.

What this leaves to the differential check: a Rust type may OVERRIDE the default methods
(`size_hint`, `nth`, `count`, `last`, `fold`, ...).  "The overrides agree with the defaults" is
what harness/src/common.rs `iter_protocol` tests on the real code, for every iterator the
properties name; the model side of that token is therefore the constant `proto=ok`.

The definitions mirror library/core/src/iter/traits/iterator.rs (`count`, `last`: `fold`;
`nth`: `advance_by(n)` - stop at the first `None` - then `next()`), adapters/skip.rs
(`Skip::next`: the first call is `iter.nth(n)`), adapters/step_by.rs (`StepBy::next`: the first call
is `iter.next()`, every later one `iter.nth(step - 1)`), adapters/take.rs + by_ref (`advance`).
None of them calls `next` again after it returned `None` (routecore's iterators need not be fused).
-/
import Rc.Base

namespace Rc.IterProto

variable {σ ι : Type}

/-- the `next()` sequence, with fuel: `some l` when `None` is reached within `fuel` calls -/
def seq (next : σ → Option (ι × σ)) : Nat → σ → Option (List ι)
  | 0, _ => none
  | f + 1, s =>
    match next s with
    | none => some []
    | some (i, s') => (seq next f s').map (i :: ·)

/-- calling `next` from `s` yields exactly the items `l`, then `None` -/
def Ends (next : σ → Option (ι × σ)) (s : σ) (l : List ι) : Prop := ∃ f, seq next f s = some l

theorem Ends.nil {next : σ → Option (ι × σ)} {s : σ} (h : next s = none) : Ends next s [] :=
  ⟨1, by simp [seq, h]⟩

theorem Ends.cons {next : σ → Option (ι × σ)} {s s' : σ} {i : ι} {l : List ι}
    (h : next s = some (i, s')) (hl : Ends next s' l) : Ends next s (i :: l) := by
  obtain ⟨f, hf⟩ := hl
  exact ⟨f + 1, by simp [seq, h, hf]⟩

theorem Ends.inv {next : σ → Option (ι × σ)} {s : σ} {l : List ι} (h : Ends next s l) :
    (next s = none ∧ l = []) ∨ (∃ i s' l', next s = some (i, s') ∧ l = i :: l' ∧ Ends next s' l') := by
  obtain ⟨f, hf⟩ := h
  cases f with
  | zero => simp [seq] at hf
  | succ f =>
    cases hn : next s with
    | none => simp [seq, hn] at hf; exact .inl ⟨rfl, hf⟩
    | some p =>
      obtain ⟨i, s'⟩ := p
      simp only [seq, hn, Option.map_eq_some_iff] at hf
      obtain ⟨l', hl', rfl⟩ := hf
      exact .inr ⟨i, s', l', rfl, rfl, f, hl'⟩

/-! ### `fold`, `count`, `last`, `collect` (whole-sequence consumers) -/

/-- `Iterator::fold` (default): `while let Some(x) = self.next() { acc = f(acc, x) }` -/
def fold {β : Type} (next : σ → Option (ι × σ)) (g : β → ι → β) : Nat → β → σ → Option β
  | 0, _, _ => none
  | f + 1, b, s =>
    match next s with
    | none => some b
    | some (i, s') => fold next g f (g b i) s'

/-- `Iterator::count` (default): `self.fold(0, |count, _| count + 1)` -/
def count (next : σ → Option (ι × σ)) (f : Nat) (s : σ) : Option Nat :=
  fold next (fun c _ => c + 1) f 0 s

/-- `Iterator::last` (default): `self.fold(None, |_, x| Some(x))` -/
def last (next : σ → Option (ι × σ)) (f : Nat) (s : σ) : Option (Option ι) :=
  fold next (fun _ i => some i) f none s

/-- `collect::<Vec<_>>()` / `for x in it { v.push(x) }` -/
def collectVec (next : σ → Option (ι × σ)) (f : Nat) (s : σ) : Option (List ι) :=
  fold next (fun l i => l ++ [i]) f [] s

theorem fold_eq {β : Type} {next : σ → Option (ι × σ)} (g : β → ι → β) :
    ∀ (f : Nat) (b : β) (s : σ) (l : List ι), seq next f s = some l → fold next g f b s = some (l.foldl g b) := by
  intro f b s l h
  fun_induction fold next g f b s generalizing l with
  | case1 => simp [seq] at h
  | case2 f b s hn => simp [seq, hn] at h; subst h; rfl
  | case3 f b s i s' hn ih =>
    simp only [seq, hn, Option.map_eq_some_iff] at h
    obtain ⟨l', hl', rfl⟩ := h
    exact ih l' hl'

private theorem foldl_last (l : List ι) : ∀ b : Option ι,
    l.foldl (fun _ i => some i) b = (match l.getLast? with | some x => some x | none => b) := by
  induction l with
  | nil => intro b; simp
  | cons a r ih =>
    intro b
    simp only [List.foldl_cons, ih, List.getLast?_cons]
    cases r.getLast? <;> simp

private theorem foldl_push (l : List ι) : ∀ acc : List ι, l.foldl (fun v i => v ++ [i]) acc = acc ++ l := by
  induction l with
  | nil => intro acc; simp
  | cons a r ih => intro acc; simp [ih]

theorem count_eq {next : σ → Option (ι × σ)} {f : Nat} {s : σ} {l : List ι} (h : seq next f s = some l) :
    count next f s = some l.length := by
  rw [count, fold_eq _ f 0 s l h, List.foldl_add_const]; simp

theorem last_eq {next : σ → Option (ι × σ)} {f : Nat} {s : σ} {l : List ι} (h : seq next f s = some l) :
    last next f s = some l.getLast? := by
  rw [last, fold_eq _ f none s l h, foldl_last]
  cases l.getLast? <;> rfl

theorem collectVec_eq {next : σ → Option (ι × σ)} {f : Nat} {s : σ} {l : List ι} (h : seq next f s = some l) :
    collectVec next f s = some l := by
  rw [collectVec, fold_eq _ f [] s l h, foldl_push]; simp

/-! ### `nth` (positional) -/

/-- `Iterator::nth(n)` (default): `advance_by(n)` stops at the first `None` (and `nth` answers `None`
without another call), otherwise one more `next()`.  The state afterwards is returned too. -/
def nth (next : σ → Option (ι × σ)) : Nat → σ → Option ι × σ
  | 0, s =>
    match next s with
    | none => (none, s)
    | some (i, s') => (some i, s')
  | n + 1, s =>
    match next s with
    | none => (none, s)
    | some (_, s') => nth next n s'

theorem nth_eq {next : σ → Option (ι × σ)} : ∀ (k : Nat) (s : σ) (l : List ι), Ends next s l →
    (nth next k s).1 = l[k]? ∧ (k < l.length → Ends next (nth next k s).2 (l.drop (k + 1))) := by
  intro k
  induction k with
  | zero =>
    intro s l h
    rcases h.inv with ⟨hn, rfl⟩ | ⟨i, s', l', hn, rfl, he⟩
    · simp [nth, hn]
    · simp [nth, hn, he]
  | succ k ih =>
    intro s l h
    rcases h.inv with ⟨hn, rfl⟩ | ⟨i, s', l', hn, rfl, he⟩
    · simp [nth, hn]
    · have := ih s' l' he
      simp only [nth, hn, List.getElem?_cons_succ, List.length_cons, List.drop_succ_cons]
      exact ⟨this.1, fun hk => this.2 (by omega)⟩

/-- the sequence is a function of the state (whatever fuel reached the end): `nth` reads it off -/
theorem Ends.unique {next : σ → Option (ι × σ)} {l₁ : List ι} :
    ∀ {s : σ} {l₂ : List ι}, Ends next s l₁ → Ends next s l₂ → l₁ = l₂ :=
  fun h₁ h₂ => List.ext_getElem? fun k => by rw [← (nth_eq k _ _ h₁).1, (nth_eq k _ _ h₂).1]

/-! ### `skip(k)` -/

/-- `Skip::next`: the first call is `iter.nth(n)` (for `n > 0`), later ones `iter.next()` -/
def skipNext (next : σ → Option (ι × σ)) : Nat × σ → Option (ι × (Nat × σ))
  | (0, s) =>
    match next s with
    | none => none
    | some (i, s') => some (i, (0, s'))
  | (n + 1, s) =>
    match nth next (n + 1) s with
    | (some i, s') => some (i, (0, s'))
    | (none, _) => none

/-- with nothing left to skip, `Skip::next` is `next` -/
private theorem seq_skip_zero (next : σ → Option (ι × σ)) (f : Nat) : ∀ s : σ,
    seq (skipNext next) f (0, s) = seq next f s := by
  induction f with
  | zero => intro s; rfl
  | succ f ih =>
    intro s
    cases hn : next s with
    | none => simp only [seq, skipNext, hn]
    | some p => simp only [seq, skipNext, hn, ih]

private theorem skip_zero {next : σ → Option (ι × σ)} {l : List ι} {s : σ} (h : Ends next s l) :
    Ends (skipNext next) (0, s) l :=
  h.imp fun f hf => (seq_skip_zero next f s).trans hf

private theorem skipNext_succ (next : σ → Option (ι × σ)) (n : Nat) (s : σ) :
    skipNext next (n + 1, s) = (nth next (n + 1) s).1.map fun i => (i, (0, (nth next (n + 1) s).2)) := by
  simp only [skipNext]
  cases nth next (n + 1) s with
  | mk o s' => cases o <;> rfl

theorem skip_eq {next : σ → Option (ι × σ)} (k : Nat) (s : σ) (l : List ι) (h : Ends next s l) :
    Ends (skipNext next) (k, s) (l.drop k) := by
  cases k with
  | zero => exact skip_zero h
  | succ n =>
    have hn := nth_eq (n + 1) s l h
    by_cases hk : n + 1 < l.length
    · rw [List.drop_eq_getElem_cons hk]
      refine Ends.cons (s' := (0, (nth next (n + 1) s).2)) ?_ (skip_zero (hn.2 hk))
      rw [skipNext_succ, hn.1, List.getElem?_eq_getElem hk]
      rfl
    · rw [List.drop_eq_nil_of_le (by omega)]
      refine Ends.nil ?_
      rw [skipNext_succ, hn.1, List.getElem?_eq_none (by omega)]
      rfl

/-! ### `step_by(k + 1)` -/

/-- `StepBy::next` with `step - 1 = k`: the first call is `iter.next()`, later ones `iter.nth(k)` -/
def stepNext (next : σ → Option (ι × σ)) (k : Nat) : Bool × σ → Option (ι × (Bool × σ))
  | (true, s) =>
    match next s with
    | none => none
    | some (i, s') => some (i, (false, s'))
  | (false, s) =>
    match nth next k s with
    | (some i, s') => some (i, (false, s'))
    | (none, _) => none

/-- every `(k + 1)`-th item of a list, starting with the first -/
def stepList (k : Nat) : List ι → List ι
  | [] => []
  | a :: r => a :: stepList k (r.drop k)
termination_by l => l.length
decreasing_by simp only [List.length_drop, List.length_cons]; omega

private theorem stepNext_false (next : σ → Option (ι × σ)) (k : Nat) (s : σ) :
    stepNext next k (false, s) = (nth next k s).1.map fun i => (i, (false, (nth next k s).2)) := by
  simp only [stepNext]
  cases nth next k s with
  | mk o s' => cases o <;> rfl

private theorem step_end {next : σ → Option (ι × σ)} {k : Nat} {l : List ι} {s : σ} (h : Ends next s l)
    (hk : l.length ≤ k) : Ends (stepNext next k) (false, s) (stepList k (l.drop k)) := by
  rw [List.drop_eq_nil_of_le hk, stepList]
  refine Ends.nil ?_
  rw [stepNext_false, (nth_eq k s l h).1, List.getElem?_eq_none hk]
  rfl

private theorem step_false {next : σ → Option (ι × σ)} (k : Nat) : ∀ (n : Nat) (l : List ι) (s : σ),
    l.length ≤ n → Ends next s l → Ends (stepNext next k) (false, s) (stepList k (l.drop k)) := by
  intro n
  induction n with
  | zero => intro l s hl h; exact step_end h (by omega)
  | succ n ih =>
    intro l s hl h
    by_cases hk : k < l.length
    · have hn := nth_eq k s l h
      rw [List.drop_eq_getElem_cons hk, stepList]
      refine Ends.cons (s' := (false, (nth next k s).2)) ?_
        (ih (l.drop (k + 1)) _ (by simp only [List.length_drop]; omega) (hn.2 hk))
      rw [stepNext_false, hn.1, List.getElem?_eq_getElem hk]
      rfl
    · exact step_end h (by omega)

theorem stepBy_eq {next : σ → Option (ι × σ)} (k : Nat) (s : σ) (l : List ι) (h : Ends next s l) :
    Ends (stepNext next k) (true, s) (stepList k l) := by
  rcases h.inv with ⟨hn, rfl⟩ | ⟨i, s', l', hn, rfl, he⟩
  · rw [stepList]; exact Ends.nil (by simp [stepNext, hn])
  · rw [stepList]
    exact Ends.cons (s' := (false, s')) (by simp [stepNext, hn]) (step_false k l'.length l' s' (Nat.le_refl _) he)

/-! ### the rest after `by_ref().take(j)`, `peekable()` -/

/-- `it.by_ref().take(j)` driven to its end: `j` calls of `next` (fewer when `None` comes first);
the items and the state the iterator is left in -/
def advance (next : σ → Option (ι × σ)) : Nat → σ → List ι × σ
  | 0, s => ([], s)
  | j + 1, s =>
    match next s with
    | none => ([], s)
    | some (i, s') => (i :: (advance next j s').1, (advance next j s').2)

theorem advance_eq {next : σ → Option (ι × σ)} : ∀ (j : Nat) (s : σ) (l : List ι), Ends next s l → j ≤ l.length →
    (advance next j s).1 = l.take j ∧ Ends next (advance next j s).2 (l.drop j) := by
  intro j
  induction j with
  | zero => intro s l h _; simpa [advance] using h
  | succ j ih =>
    intro s l h hj
    rcases h.inv with ⟨_, rfl⟩ | ⟨i, s', l', hn, rfl, he⟩
    · simp at hj
    · have := ih s' l' he (by simpa using hj)
      simp only [advance, hn, List.take_succ_cons, List.drop_succ_cons, List.cons.injEq, true_and]
      exact this

/-- `peekable()`: `peek()` is one call of `next` whose answer is kept; `count()` afterwards is
`1 + rest.count()` for a kept `Some`, `0` for a kept `None` - the count of the sequence either way -/
theorem peek_count {next : σ → Option (ι × σ)} {s : σ} {l : List ι} (h : Ends next s l) :
    match next s with
    | none => l.length = 0
    | some (_, s') => ∃ f, (count next f s').map (· + 1) = some l.length := by
  rcases h.inv with ⟨hn, rfl⟩ | ⟨i, s', l', hn, rfl, f, hf⟩
  · simp [hn]
  · simp only [hn]
    exact ⟨f, by simp [count_eq hf]⟩

/-! ### the bundle -/

/-- Every way the default methods (and the std adaptors built on them) consume an iterator whose
`next()` sequence from `s` is `l` observes `l`. -/
structure Protocol (next : σ → Option (ι × σ)) (s : σ) (l : List ι) : Prop where
  /-- `count()` -/
  count : ∃ f, count next f s = some l.length
  /-- `last()` -/
  last : ∃ f, last next f s = some l.getLast?
  /-- `collect()` / `for` -/
  collect : ∃ f, collectVec next f s = some l
  /-- `fold` (hence `for_each`, `sum`, `max_by`, `reduce` ..) -/
  fold : ∀ {β : Type} (g : β → ι → β) (b : β), ∃ f, fold next g f b s = some (l.foldl g b)
  /-- `nth(k)`: the k-th item (`None` beyond the end, found without a call after the first `None`);
  what follows it is the rest of the sequence -/
  nth : ∀ k, (nth next k s).1 = l[k]? ∧ (k < l.length → Ends next (nth next k s).2 (l.drop (k + 1)))
  /-- `skip(k)` -/
  skip : ∀ k, Ends (skipNext next) (k, s) (l.drop k)
  /-- `step_by(k + 1)` -/
  stepBy : ∀ k, Ends (stepNext next k) (true, s) (stepList k l)
  /-- `by_ref().take(j)` yields the first `j` items and leaves an iterator whose sequence is the rest
  (to which all of the above applies again: `protocol_of_ends`) -/
  rest : ∀ j, j ≤ l.length → (advance next j s).1 = l.take j ∧ Ends next (advance next j s).2 (l.drop j)

theorem protocol_of_ends {next : σ → Option (ι × σ)} {s : σ} {l : List ι} (h : Ends next s l) :
    Protocol next s l := by
  obtain ⟨f, hf⟩ := h
  exact {
    count := ⟨f, count_eq hf⟩
    last := ⟨f, last_eq hf⟩
    collect := ⟨f, collectVec_eq hf⟩
    fold := fun g b => ⟨f, fold_eq g f b s l hf⟩
    nth := fun k => nth_eq k s l ⟨f, hf⟩
    skip := fun k => skip_eq k s l ⟨f, hf⟩
    stepBy := fun k => stepBy_eq k s l ⟨f, hf⟩
    rest := fun j hj => advance_eq j s l ⟨f, hf⟩ hj }

/-! ### `next` functions that can panic (`Outcome`-valued models, e.g. `Rc.Mrt.ribNext`) -/

/-- the `next` of a run in which nothing panics: an `Outcome`-valued model `next` read as a plain one
(a non-`ok` answer ends the reading; the user shows that it does not occur on the run, as `ends_of_drain` in
Rc/Thm/C16.lean does) -/
def okNext {α : Type} (next : σ → Outcome (Option (α × σ))) : σ → Option (α × σ) := fun s =>
  match next s with
  | .ok r => r
  | _ => none

example : Protocol (fun (l : List Nat) => match l with | [] => none | a :: r => some (a, r)) [1, 2, 3, 4, 5] [1, 2, 3, 4, 5] :=
  protocol_of_ends ⟨6, by decide⟩

example : stepList 1 [1, 2, 3, 4, 5] = [1, 3, 5] := by simp [stepList]
example : stepList 2 [1, 2, 3, 4, 5] = [1, 4] := by simp [stepList]

end Rc.IterProto
