import Rc.Model.Community
open Rc Rc.Community
namespace Rc.Lemmas.Community

def isDec (c : Char) : Prop := 48 ≤ c.toNat ∧ c.toNat ≤ 57

instance (c : Char) : Decidable (isDec c) := inferInstanceAs (Decidable (_ ∧ _))

theorem decVal_digitChar : ∀ d, d < 10 → decVal (digitChar d) = some d := by decide

theorem isDec_ne {c : Char} (h : isDec c) {d : Char} (hd : d.toNat < 48 ∨ 57 < d.toNat) : c ≠ d := by
  intro e; subst e; unfold isDec at h; omega

theorem decVal_none_of_not_dec {c : Char} (h : ¬ isDec c) : decVal c = none := if_neg h

theorem parseDigits_append (val : Char → Option Nat) (radix : Nat) (s t : Text) (acc : Nat) :
    parseDigits val radix (s ++ t) acc =
      (parseDigits val radix s acc).bind (fun a => parseDigits val radix t a) := by
  fun_induction parseDigits val radix s acc <;> simp_all [parseDigits]

theorem parseDigits_bad (val : Char → Option Nat) (radix : Nat) (s : Text) (acc : Nat)
    (c : Char) (hc : c ∈ s) (hv : val c = none) : parseDigits val radix s acc = none := by
  obtain ⟨a, b, rfl⟩ := List.append_of_mem hc
  rw [parseDigits_append]
  cases parseDigits val radix a acc with
  | none => rfl
  | some x => simp only [Option.bind, parseDigits, hv]

theorem showDecAux_parse (fuel n : Nat) (acc : Text) (h : n < fuel) :
    parseDigits decVal 10 (showDecAux fuel n acc) 0 = parseDigits decVal 10 acc n := by
  induction fuel generalizing n acc with
  | zero => omega
  | succ fuel ih =>
    have hd : parseDigits decVal 10 (digitChar (n % 10) :: acc) (n / 10) = parseDigits decVal 10 acc n := by
      simp only [parseDigits, decVal_digitChar (n % 10) (by omega)]
      congr 1; omega
    unfold showDecAux
    simp only
    split
    · rw [← hd, show n / 10 = 0 by omega]
    · rw [ih (n / 10) _ (by omega), hd]

theorem parseDigits_showDec (n : Nat) : parseDigits decVal 10 (showDec n) 0 = some n := by
  unfold showDec
  rw [showDecAux_parse _ _ _ (by omega)]
  rfl

/-- a printed number parses, so it consists of digits -/
theorem not_mem_showDec {c : Char} (h : ¬ isDec c) (n : Nat) : c ∉ showDec n := fun hc =>
  nomatch (parseDigits_showDec n).symm.trans (parseDigits_bad decVal 10 _ 0 c hc (decVal_none_of_not_dec h))

theorem showDecAux_ne_nil (fuel n : Nat) (acc : Text) (h : acc ≠ []) : showDecAux fuel n acc ≠ [] := by
  fun_induction showDecAux fuel n acc <;> simp_all

theorem showDec_cons (n : Nat) : ∃ c r, showDec n = c :: r ∧ isDec c := by
  cases e : showDec n with
  | nil =>
    unfold showDec showDecAux at e
    simp only at e
    split at e
    · cases e
    · exact absurd e (showDecAux_ne_nil _ _ _ (List.cons_ne_nil _ _))
  | cons c r => exact ⟨c, r, rfl, Decidable.by_contra fun hc => not_mem_showDec hc n (e ▸ List.mem_cons_self)⟩

theorem parseUnsigned_of_digits {val : Char → Option Nat} {radix bound : Nat} {c : Char} {r : Text} {v : Nat}
    (hc : c ≠ '+') (hp : parseDigits val radix (c :: r) 0 = some v) :
    parseUnsigned val radix bound (c :: r) = if v < bound then some v else none := by
  have hs : stripPlus (c :: r) = c :: r := by
    unfold stripPlus
    split
    · next h => exact absurd (List.cons.inj h).1 hc
    · rfl
  simp only [parseUnsigned, hs, parseUnsignedBody, hp]

theorem parseUnsigned_bad {val : Char → Option Nat} {radix bound : Nat} {s : Text}
    (c : Char) (hc : c ∈ s) (hne : c ≠ '+') (hv : val c = none) : parseUnsigned val radix bound s = none := by
  have hb : c ∈ stripPlus s := by
    unfold stripPlus
    split
    · exact (List.mem_cons.mp hc).resolve_left hne
    · exact hc
  unfold parseUnsigned
  generalize stripPlus s = body at hb
  cases body with
  | nil => rfl
  | cons x xs => simp only [parseUnsignedBody, parseDigits_bad val radix (x :: xs) 0 c hb hv]

theorem parseDec_showDec (bound n : Nat) :
    parseUnsigned decVal 10 bound (showDec n) = if n < bound then some n else none := by
  obtain ⟨c, r, h, hc⟩ := showDec_cons n
  have hp := parseDigits_showDec n
  rw [h] at hp ⊢
  exact parseUnsigned_of_digits (isDec_ne hc (by decide)) hp

theorem parseDecU32_showDec {n : Nat} (h : n < 4294967296) : parseDecU32 (showDec n) = some n := by
  unfold parseDecU32; rw [parseDec_showDec, if_pos h]
theorem parseDecU16_showDec {n : Nat} (h : n < 65536) : parseDecU16 (showDec n) = some n := by
  unfold parseDecU16; rw [parseDec_showDec, if_pos h]

theorem parseDec_bad {bound : Nat} {s : Text} (c : Char) (hc : c ∈ s) (hd : ¬ isDec c) (hp : c ≠ '+') :
    parseUnsigned decVal 10 bound s = none :=
  parseUnsigned_bad c hc hp (decVal_none_of_not_dec hd)

theorem splitOnce_append {sep : Char} {a r : Text} (h : sep ∉ a) :
    splitOnce sep (a ++ sep :: r) = some (a, r) := by
  induction a with
  | nil => simp [splitOnce]
  | cons c a ih =>
    simp only [List.mem_cons, not_or] at h
    simp [splitOnce, Ne.symm h.1, ih h.2]

theorem splitOnce_none {sep : Char} {s : Text} (h : sep ∉ s) : splitOnce sep s = none := by
  fun_induction splitOnce sep s <;> simp_all

theorem stripAs_AS (s : Text) : stripAs ('A' :: 'S' :: s) = s := by
  simp [stripAs, stripPrefix]

theorem stripAs_of_head (c : Char) (r : Text) (h1 : c ≠ 'A') (h2 : c ≠ 'a') : stripAs (c :: r) = c :: r := by
  simp [stripAs, stripPrefix, Ne.symm h1, Ne.symm h2]

theorem stripAs_of_dec (c : Char) (r : Text) (h : isDec c) : stripAs (c :: r) = c :: r :=
  stripAs_of_head c r (isDec_ne h (by decide)) (isDec_ne h (by decide))

theorem stripAs_showDec (n : Nat) : stripAs (showDec n) = showDec n := by
  obtain ⟨c, r, h, hc⟩ := showDec_cons n
  rw [h]
  exact stripAs_of_dec c r hc

theorem colon_not_mem_asText (n : Nat) : ':' ∉ asText n := by
  simp [asText, not_mem_showDec (c := ':') (by decide)]

theorem colon_not_mem_0x {H : Text} (h : ':' ∉ H) : ':' ∉ '0' :: 'x' :: H := by simp [h]

theorem foldl_snoc (bs : Bytes) (x : UInt8) (acc : Nat) :
    (bs ++ [x]).foldl (fun a b => a * 256 + b.toNat) acc = bs.foldl (fun a b => a * 256 + b.toNat) acc * 256 + x.toNat := by
  simp [List.foldl_append]

theorem beVal_snoc (bs : Bytes) (x : UInt8) : beVal (bs ++ [x]) = beVal bs * 256 + x.toNat :=
  foldl_snoc bs x 0

theorem beVal_spec (k : Nat) (bs : Bytes) (h : bs.length = k) :
    beVal bs < 256 ^ k ∧ beBytes k (beVal bs) = bs := by
  induction k generalizing bs with
  | zero => rw [List.eq_nil_of_length_eq_zero h]; exact ⟨by decide, rfl⟩
  | succ k ih =>
    obtain rfl | ⟨L, x, rfl⟩ := List.eq_nil_or_concat bs
    · cases h
    · obtain ⟨hlt, hbe⟩ := ih L (by simpa using h)
      have hx := x.toNat_lt
      rw [List.concat_eq_append, beVal_snoc, beBytes, show (beVal L * 256 + x.toNat) / 256 = beVal L by omega,
        show (beVal L * 256 + x.toNat) % 256 = x.toNat by omega, hbe, UInt8.ofNat_toNat]
      exact ⟨by rw [Nat.pow_succ]; omega, rfl⟩

theorem beVal_lt {bs : Bytes} {k : Nat} (h : bs.length = k) : beVal bs < 256 ^ k := (beVal_spec k bs h).1

theorem beBytes_beVal (k : Nat) (bs : Bytes) (h : bs.length = k) : beBytes k (beVal bs) = bs := (beVal_spec k bs h).2

theorem beBytes2 (x y : UInt8) : beBytes 2 (x.toNat * 256 + y.toNat) = [x, y] := by
  have := beBytes_beVal 2 [x, y] rfl
  simpa [beVal] using this

theorem u8_of_toNat (x : UInt8) (n : Nat) (h : x.toNat = n) : x = UInt8.ofNat n := by
  subst h; simp

theorem slice_length (raw : Bytes) (lo hi : Nat) (h : hi ≤ raw.length) : (slice raw lo hi).length = hi - lo := by
  simp [slice]; omega

theorem slice_append {raw : Bytes} {a b c : Nat} (hab : a ≤ b) (hbc : b ≤ c) :
    slice raw a b ++ slice raw b c = slice raw a c := by
  unfold slice
  have : c - a = (b - a) + (c - b) := by omega
  rw [this, List.take_add, List.drop_drop]
  congr 3; omega

theorem slice_all (raw : Bytes) (n : Nat) (h : raw.length = n) : slice raw 0 n = raw := by
  simp [slice, ← h]

theorem slice3 (raw : Bytes) (a b n : Nat) (hab : a ≤ b) (hbn : b ≤ n) (h : raw.length = n) :
    slice raw 0 a ++ (slice raw a b ++ slice raw b n) = raw := by
  rw [slice_append hab hbn, slice_append (Nat.zero_le a) (Nat.le_trans hab hbn), slice_all raw n h]

/-- a byte printed as two digits from a table of sixteen (`{:02X}`, `{:02x}`); the second conjunct is
all the proofs use of a digit -/
def IsHex2 (hx : UInt8 → Text) : Prop :=
  ∃ dg : Nat → Char, (∀ b, hx b = [dg (b.toNat / 16), dg (b.toNat % 16)]) ∧
    ∀ d, d < 16 → hexValC (dg d) = some d ∧ dg d ≠ ':' ∧ dg d ≠ '+' ∧ (dg d).utf8Size = 1

theorem isHex2_U : IsHex2 hex2U := ⟨hexDigitU, fun _ => rfl, by decide⟩
theorem isHex2_L : IsHex2 hex2L := ⟨hexDigitL, fun _ => rfl, by decide⟩

section
variable {hx : UInt8 → Text} (h : IsHex2 hx)
include h

theorem parseDigits_hex2 (b : UInt8) (r : Text) (acc : Nat) :
    parseDigits hexValC 16 (hx b ++ r) acc = parseDigits hexValC 16 r (acc * 256 + b.toNat) := by
  obtain ⟨dg, e, hd⟩ := h
  have hb := b.toNat_lt
  simp only [e, List.cons_append, List.nil_append, parseDigits,
    (hd (b.toNat / 16) (by omega)).1, (hd (b.toNat % 16) (by omega)).1]
  congr 1; omega

theorem parseDigits_flatMap_hex2 (bs : Bytes) (r : Text) (acc : Nat) :
    parseDigits hexValC 16 (bs.flatMap hx ++ r) acc =
      parseDigits hexValC 16 r (bs.foldl (fun a b => a * 256 + b.toNat) acc) := by
  induction bs generalizing acc with
  | nil => rfl
  | cons x bs ih => simp only [List.flatMap_cons, List.append_assoc, parseDigits_hex2 h, ih, List.foldl_cons]

theorem flatMap_hex2_chars (bs : Bytes) : ∀ c ∈ bs.flatMap hx, c ≠ ':' ∧ c ≠ '+' ∧ c.utf8Size = 1 := by
  obtain ⟨dg, e, hd⟩ := h
  intro c hc
  obtain ⟨x, _, hx⟩ := List.mem_flatMap.mp hc
  have := x.toNat_lt
  simp only [e, List.mem_cons, List.not_mem_nil, or_false] at hx
  rcases hx with rfl | rfl
  · exact (hd _ (by omega)).2
  · exact (hd _ (by omega)).2

theorem colon_not_mem_flatMap_hex2 (bs : Bytes) : ':' ∉ bs.flatMap hx :=
  fun hc => (flatMap_hex2_chars h bs _ hc).1 rfl

theorem length_flatMap_hex2 (bs : Bytes) : (bs.flatMap hx).length = 2 * bs.length := by
  obtain ⟨dg, e, _⟩ := h
  induction bs with
  | nil => rfl
  | cons x bs ih => simp only [List.flatMap_cons, List.length_append, e, ih, List.length_cons, List.length_nil]; omega

theorem parseHex_bytes {bs : Bytes} {k : Nat} (hk : 0 < k) (hl : bs.length = k) :
    parseUnsigned hexValC 16 (256 ^ k) (bs.flatMap hx) = some (beVal bs) := by
  subst hl
  match bs, hk with
  | x :: bs, _ =>
    have hp := parseDigits_flatMap_hex2 h (x :: bs) [] 0
    obtain ⟨dg, e, hd⟩ := h
    have hx := x.toNat_lt
    rw [List.append_nil, List.flatMap_cons, e] at hp
    rw [List.flatMap_cons, e]
    exact (parseUnsigned_of_digits (hd _ (by omega)).2.2.1 hp).trans (if_pos (beVal_lt rfl))

end

theorem byteLen_ascii (a : Text) (ha : ∀ c ∈ a, c.utf8Size = 1) : byteLen a = a.length := by
  induction a with
  | nil => rfl
  | cons c a ih =>
    simp only [byteLen, List.map_cons, List.sum_cons, List.length_cons] at ih ⊢
    rw [ha c (by simp), ih (fun c hc => ha c (List.mem_cons_of_mem _ hc))]
    omega

theorem splitAtByte_ascii (a rest : Text) (ha : ∀ c ∈ a, c.utf8Size = 1) :
    splitAtByte (a ++ rest) a.length = some (a, rest) := by
  induction a with
  | nil => simp [splitAtByte]
  | cons c a ih =>
    simp only [List.cons_append, List.length_cons, splitAtByte, ha c (by simp), Nat.add_sub_cancel,
      ih (fun c hc => ha c (List.mem_cons_of_mem _ hc))]
    simp

/-- the `0x` arm of `parseStd` (`k = 4`) and of `parseExt` (`k = 8`) -/
def hexArm (k : Nat) (H : Text) : Outcome Bytes :=
  if H.length > 2 * k then .err else
  match parseUnsigned hexValC 16 (256 ^ k) H with
  | some v => .ok (beBytes k v)
  | none => .err

theorem hexArm_long {k : Nat} {H : Text} (h : H.length > 2 * k) : hexArm k H = .err := if_pos h

theorem hexArm_bytes {k : Nat} (hk : 0 < k) (bs : Bytes) (hl : bs.length = k) :
    hexArm k (bs.flatMap hex2U) = .ok bs := by
  have hlen : ¬ (bs.flatMap hex2U).length > 2 * k := by rw [length_flatMap_hex2 isHex2_U]; omega
  simp only [hexArm, if_neg hlen, parseHex_bytes isHex2_U hk hl, beBytes_beVal k bs hl]

theorem findRowIdx_some {p : WkRow → Bool} {rows : List WkRow} {start i : Nat}
    (h : findRowIdx p rows start = some i) : ∃ row, rows[i - start]? = some row ∧ p row = true ∧ start ≤ i := by
  fun_induction findRowIdx p rows start with
  | case1 => cases h
  | case2 r rs j hp => cases h; exact ⟨r, by simp, hp, Nat.le_refl _⟩
  | case3 r rs j hp ih =>
    obtain ⟨row, h1, h2, h3⟩ := ih h
    exact ⟨row, by rw [show i - j = (i - (j + 1)) + 1 by omega]; exact h1, h2, by omega⟩

theorem findRowIdx_none {p : WkRow → Bool} {rows : List WkRow} {start : Nat}
    (h : ∀ row ∈ rows, p row = false) : findRowIdx p rows start = none := by
  fun_induction findRowIdx p rows start <;> simp_all

def tableRoundTrip : Bool :=
  wkRows.all fun row => match Wk.parse (row.names.headD []) with
    | some w => w.toU32 == row.value
    | none => false
theorem tableRoundTrip_ok : tableRoundTrip = true := by decide +kernel

def keysOK : Bool :=
  wkRows.all fun row => row.keys.all fun k => !k.contains ':' && k.head? != some '0'
theorem keysOK_ok : keysOK = true := by decide +kernel

theorem wk_parse_none (s : Text) (h : ':' ∈ s ∨ s.head? = some '0') : Wk.parse s = none := by
  have hl : ':' ∈ lower s ∨ (lower s).head? = some '0' :=
    h.imp (fun h => List.mem_map.mpr ⟨':', h, by decide⟩) fun h => by rw [lower, List.head?_map, h]; rfl
  unfold Wk.parse
  simp only
  rw [findRowIdx_none]
  intro row hrow
  refine Bool.eq_false_iff.mpr fun hc => ?_
  have hk := List.all_eq_true.mp (List.all_eq_true.mp keysOK_ok row hrow) (lower s) (by simpa using hc)
  simp at hk
  exact hl.elim hk.1 hk.2

theorem wk_named_roundtrip (i : Nat) (row : WkRow) (h : wkRows[i]? = some row) :
    ∃ w, Wk.parse (row.names.headD []) = some w ∧ w.toU32 = row.value := by
  have hk := List.all_eq_true.mp tableRoundTrip_ok row (List.mem_of_getElem? h)
  cases hp : Wk.parse (row.names.headD []) with
  | none => rw [hp] at hk; cases hk
  | some w => rw [hp] at hk; exact ⟨w, rfl, beq_iff_eq.mp hk⟩

theorem parseStd_0x {H : Text} (hcol : ':' ∉ H) : parseStd ('0' :: 'x' :: H) = hexArm 4 H := by
  unfold parseStd
  rw [wk_parse_none _ (Or.inr rfl), splitOnce_none (colon_not_mem_0x hcol)]
  simp only [stripPrefix, if_true]
  rfl

theorem parseStd_wk (n : Nat) :
    parseStd (Wk.display (Wk.fromU16 n)) = .ok (beBytes 4 (0xFFFF0000 + n % 65536)) := by
  unfold Wk.fromU16
  cases hf : findRowIdx (fun r => r.value == 0xFFFF0000 + n % 65536) wkRows 0 with
  | some i =>
    obtain ⟨row, hrow, hp, _⟩ := findRowIdx_some hf
    rw [Nat.sub_zero] at hrow
    obtain ⟨w, hw, hv⟩ := wk_named_roundtrip i row hrow
    simp only [Wk.display, hrow, parseStd, hw, hv, beq_iff_eq.mp hp]
  | none =>
    have hn : n % 65536 < 65536 := Nat.mod_lt _ (by decide)
    generalize n % 65536 = m at hn
    have e : Wk.display (.unrecognized m) =
        '0' :: 'x' :: [0xFF, 0xFF, UInt8.ofNat (m / 256), UInt8.ofNat (m % 256)].flatMap hex2U := rfl
    simp only
    rw [e, parseStd_0x (colon_not_mem_flatMap_hex2 isHex2_U _), hexArm_bytes (k := 4) (by decide) _ rfl,
      ← beBytes_beVal 4 [0xFF, 0xFF, UInt8.ofNat (m / 256), UInt8.ofNat (m % 256)] rfl]
    congr 2
    simp [beVal, UInt8.toNat_ofNat']
    omega

theorem parseStd_asn_tag {a t : Nat} (ha : a < 65536) (ht : t < 65536) :
    parseStd (asText a ++ ':' :: showDec t) = .ok (beBytes 2 a ++ beBytes 2 t) := by
  unfold parseStd
  rw [wk_parse_none _ (Or.inl (by simp)), splitOnce_append (colon_not_mem_asText a)]
  simp only [asText, List.cons_append, List.nil_append, stripAs_AS, parseDecU16_showDec ha, parseDecU16_showDec ht]

theorem isWellknown_iff {raw : Bytes} (h : raw.length = 4) :
    isWellknown raw = true ↔ stdU32 raw / 65536 % 65536 = 0xFFFF := by
  match raw, h with
  | [b0, b1, b2, b3], _ =>
    have h0 := b0.toNat_lt; have h1 := b1.toNat_lt; have h2 := b2.toNat_lt; have h3 := b3.toNat_lt
    simp only [isWellknown, byteAt, stdU32, beVal, List.getD_cons_zero, List.getD_cons_succ, Bool.and_eq_true,
      beq_iff_eq, ← UInt8.toNat_inj, List.take, List.foldl]
    simp
    omega

theorem displayLarge_eq (raw : Bytes) : displayLarge raw =
    showDec (lrgGlobal raw) ++ ':' :: (showDec (lrgLocal1 raw) ++ ':' :: showDec (lrgLocal2 raw)) := by
  simp [displayLarge]

theorem parseLarge_dec {g l1 l2 : Nat} (hg : g < 4294967296) (h1 : l1 < 4294967296) (h2 : l2 < 4294967296) :
    parseLarge (showDec g ++ ':' :: (showDec l1 ++ ':' :: showDec l2)) =
      .ok (beBytes 4 g ++ beBytes 4 l1 ++ beBytes 4 l2) := by
  unfold parseLarge
  rw [splitOnce_append (not_mem_showDec (by decide) _)]
  simp only [stripAs_showDec, parseDecU32_showDec hg]
  rw [splitOnce_append (not_mem_showDec (by decide) _)]
  simp only [parseDecU32_showDec h1, parseDecU32_showDec h2]

def extTypeOf (t : Nat) : ExtType :=
  if t = 0x00 then .transitiveTwoOctetSpecific
  else if t = 0x01 then .transitiveIp4Specific
  else if t = 0x02 then .transitiveFourOctetSpecific
  else if t = 0x03 then .transitiveOpaque
  else if t = 0x40 then .nonTransitiveTwoOctetSpecific
  else if t = 0x41 then .nonTransitiveIp4Specific
  else if t = 0x42 then .nonTransitiveFourOctetSpecific
  else if t = 0x43 then .nonTransitiveOpaque
  else .otherType t

def extSubOf (t s : Nat) : ExtSub :=
  if s = 0x02 ∧ (t = 0x00 ∨ t = 0x01 ∨ t = 0x02 ∨ t = 0x43) then .routeTarget
  else if s = 0x03 ∧ (t = 0x00 ∨ t = 0x01 ∨ t = 0x02) then .routeOrigin
  else .otherSubType s

theorem extTypes_fst (raw : Bytes) : (extTypes raw).1 = extTypeOf (byteAt raw 0).toNat := by
  simp only [extTypes, extTypeOf, apply_ite Prod.fst, ite_self]

theorem extTypes_snd (raw : Bytes) :
    (extTypes raw).2 = extSubOf (byteAt raw 0).toNat (byteAt raw 1).toNat := by
  simp only [extTypes, extSubOf, apply_ite Prod.snd]
  generalize (byteAt raw 0).toNat = t
  by_cases h : t = 0x00 ∨ t = 0x01 ∨ t = 0x02
  · rcases h with rfl | rfl | rfl <;> simp
  · simp only [not_or] at h
    rw [if_neg h.1, if_neg h.2.1, if_neg h.2.2]
    by_cases h43 : t = 0x43
    · subst h43; simp
    · simp [h, h43]

theorem extTypeOf_other {t : Nat} (h : t ∉ [0x00, 0x01, 0x02, 0x03, 0x40, 0x41, 0x42, 0x43]) :
    extTypeOf t = .otherType t := by
  simp only [List.mem_cons, List.not_mem_nil, or_false, not_or] at h
  simp only [extTypeOf, h, if_false]

theorem displayExt_no_panic (raw : Bytes) : displayExt raw ≠ .panic := by
  unfold displayExt
  split <;> simp [extAs2, extAs4, extIp4, extAn2, extAn4, *]

/-- the class of the statement: everything except the non-transitive opaque route target (prints
`rt:` + unpadded hex) and four-octet-AS rt/ro whose AS fits two octets (prints like a two-octet one) -/
def ExtTextClass (raw : Bytes) : Prop :=
  ¬ ((byteAt raw 0).toNat = 0x43 ∧ (byteAt raw 1).toNat = 2) ∧
  ¬ ((byteAt raw 0).toNat = 2 ∧ ((byteAt raw 1).toNat = 2 ∨ (byteAt raw 1).toNat = 3) ∧ beVal (slice raw 2 6) ≤ 65535)

/-- texts `Display for ExtendedCommunity` produces for the class: `rt:`/`ro:` + tail, or `0x` + 16 hex digits -/
def ExtForm (t : Text) : Prop :=
  (∃ c tail, (c = 't' ∨ c = 'o') ∧ t = 'r' :: c :: ':' :: tail) ∨
  (∃ H, t = '0' :: 'x' :: H ∧ ':' ∉ H ∧ H.length = 16)

theorem displayExt_hex {raw : Bytes} (h : raw.length = 8) {s : Nat} (hs : (extTypes raw).2 = .otherSubType s) :
    displayExt raw = .ok ('0' :: 'x' :: raw.flatMap hex2U) := by
  unfold displayExt
  rw [List.take_of_length_le (by omega)]
  generalize extTypes raw = p at *
  obtain ⟨ty, sub⟩ := p
  simp only at hs
  subst hs
  cases ty <;> rfl

theorem parseExt_0x {H : Text} (hcol : ':' ∉ H) : parseExt ('0' :: 'x' :: H) = hexArm 8 H := by
  unfold parseExt
  rw [splitOnce_none (colon_not_mem_0x hcol)]
  simp only [stripPrefix, if_true]
  rfl

def subLetter (s : UInt8) : Char := if s = 2 then 't' else 'o'

theorem parseExt_tagged {s : UInt8} (hs : s = 2 ∨ s = 3) (tail : Text) :
    parseExt ('r' :: subLetter s :: ':' :: tail) = parseExtTagged s.toNat tail := by
  rcases hs with rfl | rfl <;> simp [parseExt, splitOnce, subLetter]

theorem tagged_as2 (s : UInt8) (A N : Bytes) (hA : A.length = 2) (hN : N.length = 4) :
    parseExtTagged s.toNat (asText (beVal A) ++ ':' :: showDec (beVal N)) = .ok (0x00 :: s :: (A ++ N)) := by
  unfold parseExtTagged
  rw [splitOnce_append (colon_not_mem_asText _)]
  simp only [asText, List.cons_append, List.nil_append, stripAs_AS, parseDecU16_showDec (beVal_lt hA),
    parseDecU32_showDec (beVal_lt hN), beBytes_beVal 2 A hA, beBytes_beVal 4 N hN, UInt8.ofNat_toNat]

theorem tagged_as4 (s : UInt8) (A N : Bytes) (hA : A.length = 4) (hN : N.length = 2) (hbig : 65536 ≤ beVal A) :
    parseExtTagged s.toNat (asText (beVal A) ++ ':' :: showDec (beVal N)) = .ok (0x02 :: s :: (A ++ N)) := by
  unfold parseExtTagged
  rw [splitOnce_append (colon_not_mem_asText _)]
  have h16 : parseDecU16 (showDec (beVal A)) = none := by
    unfold parseDecU16; rw [parseDec_showDec, if_neg (by omega)]
  simp only [asText, List.cons_append, List.nil_append, stripAs_AS, h16, parseDecU32_showDec (beVal_lt hA),
    parseDecU16_showDec (beVal_lt hN), beBytes_beVal 4 A hA, beBytes_beVal 2 N hN, UInt8.ofNat_toNat]

theorem octets : ∀ x, x < 256 → parseOctet (showDec x) = some x := by decide +kernel

theorem showIp4_eq (i0 i1 i2 i3 : UInt8) : showIp4 [i0, i1, i2, i3] =
    showDec i0.toNat ++ '.' :: (showDec i1.toNat ++ '.' :: (showDec i2.toNat ++ '.' :: showDec i3.toNat)) := by
  simp [showIp4, byteAt]

theorem parseIp4_showIp4 (i0 i1 i2 i3 : UInt8) : parseIp4 (showIp4 [i0, i1, i2, i3]) = some [i0, i1, i2, i3] := by
  have hdot (n : Nat) : '.' ∉ showDec n := not_mem_showDec (by decide) n
  rw [showIp4_eq]
  unfold parseIp4
  rw [splitOnce_append (hdot _)]
  simp only
  rw [splitOnce_append (hdot _)]
  simp only
  rw [splitOnce_append (hdot _)]
  simp only [octets _ i0.toNat_lt, octets _ i1.toNat_lt, octets _ i2.toNat_lt, octets _ i3.toNat_lt, UInt8.ofNat_toNat]

theorem tagged_ip4 (s i0 i1 i2 i3 : UInt8) (N : Bytes) (hN : N.length = 2) :
    parseExtTagged s.toNat (showIp4 [i0, i1, i2, i3] ++ ':' :: showDec (beVal N)) =
      .ok (0x01 :: s :: ([i0, i1, i2, i3] ++ N)) := by
  have hcolon : ':' ∉ showIp4 [i0, i1, i2, i3] := by
    rw [showIp4_eq]
    simp [not_mem_showDec (c := ':') (by decide)]
  have hdot : '.' ∈ showIp4 [i0, i1, i2, i3] := by rw [showIp4_eq]; simp
  -- starts with a digit, so no `AS` is stripped; the dot makes it no number
  have hs : stripAs (showIp4 [i0, i1, i2, i3]) = showIp4 [i0, i1, i2, i3] := by
    obtain ⟨c, r, e, hc⟩ := showDec_cons i0.toNat
    rw [showIp4_eq, e]
    exact stripAs_of_dec c _ hc
  have hnum (bound : Nat) : parseUnsigned decVal 10 bound (showIp4 [i0, i1, i2, i3]) = none :=
    parseDec_bad '.' hdot (by decide) (by decide)
  unfold parseExtTagged
  rw [splitOnce_append hcolon]
  simp only [hs, parseDecU16, parseDecU32, hnum, parseIp4_showIp4]
  rw [← parseDecU16, parseDecU16_showDec (beVal_lt hN)]
  simp only [beBytes_beVal 2 N hN, UInt8.ofNat_toNat]
  rfl

theorem ext_tagged_form {s : UInt8} (hs : s = 2 ∨ s = 3) {raw : Bytes} {a n : Text}
    (hp : parseExtTagged s.toNat (a ++ ':' :: n) = .ok raw)
    (hd : displayExt raw = .ok (['r', subLetter s, ':'] ++ a ++ [':'] ++ n)) :
    ∃ t, displayExt raw = .ok t ∧ parseExt t = .ok raw ∧ ExtForm t := by
  have e : ['r', subLetter s, ':'] ++ a ++ [':'] ++ n = 'r' :: subLetter s :: ':' :: (a ++ ':' :: n) := by simp
  have hc : subLetter s = 't' ∨ subLetter s = 'o' := by rcases hs with rfl | rfl <;> decide
  exact ⟨_, hd, by rw [e, parseExt_tagged hs, hp], .inl ⟨_, _, hc, e⟩⟩

theorem ext_text_form (raw : Bytes) (h : raw.length = 8) (hc : ExtTextClass raw) :
    ∃ t, displayExt raw = .ok t ∧ parseExt t = .ok raw ∧ ExtForm t := by
  by_cases htag : ((byteAt raw 0).toNat = 0 ∨ (byteAt raw 0).toNat = 1 ∨ (byteAt raw 0).toNat = 2) ∧
      ((byteAt raw 1).toNat = 2 ∨ (byteAt raw 1).toNat = 3)
  · match raw, h, hc, htag with
    | [t, s, b2, b3, b4, b5, b6, b7], _, ⟨_, hc2⟩, ⟨ht, hs⟩ =>
      have hs' : s = 2 ∨ s = 3 := hs.imp (u8_of_toNat _ _) (u8_of_toNat _ _)
      rcases ht with ht | ht | ht
      · obtain rfl := u8_of_toNat _ _ ht
        refine ext_tagged_form hs' (tagged_as2 s [b2, b3] [b4, b5, b6, b7] rfl rfl) ?_
        rcases hs' with rfl | rfl <;> rfl
      · obtain rfl := u8_of_toNat _ _ ht
        refine ext_tagged_form hs' (tagged_ip4 s b2 b3 b4 b5 [b6, b7] rfl) ?_
        rcases hs' with rfl | rfl <;> rfl
      · obtain rfl := u8_of_toNat _ _ ht
        have hbig : 65536 ≤ beVal [b2, b3, b4, b5] := Nat.not_le.mp fun hle => hc2 ⟨ht, hs, hle⟩
        refine ext_tagged_form hs' (tagged_as4 s [b2, b3, b4, b5] [b6, b7] rfl rfl hbig) ?_
        rcases hs' with rfl | rfl <;> rfl
  · have hc1 := hc.1
    have hsub : (extTypes raw).2 = .otherSubType (byteAt raw 1).toNat := by
      rw [extTypes_snd, extSubOf, if_neg (by omega), if_neg (by omega)]
    have hcol := colon_not_mem_flatMap_hex2 isHex2_U raw
    refine ⟨_, displayExt_hex h hsub, (parseExt_0x hcol).trans (hexArm_bytes (by omega) raw h),
      .inr ⟨_, rfl, hcol, ?_⟩⟩
    rw [length_flatMap_hex2 isHex2_U, h]

theorem parseV6_hex {A B C : Bytes} (hA : A.length = 8) (hB : B.length = 8) (hC : C.length = 4) :
    parseV6 ('0' :: 'x' :: (A ++ (B ++ C)).flatMap hex2L) = .ok (A ++ (B ++ C)) := by
  have hsz (X : Bytes) : ∀ c ∈ X.flatMap hex2L, c.utf8Size = 1 :=
    fun c hc => (flatMap_hex2_chars isHex2_L X c hc).2.2
  have hcut (X : Bytes) (rest : Text) (hX : X.length = 8) :
      splitAtByte (X.flatMap hex2L ++ rest) 16 = some (X.flatMap hex2L, rest) := by
    have := splitAtByte_ascii (X.flatMap hex2L) rest (hsz X)
    rwa [length_flatMap_hex2 isHex2_L, hX] at this
  have hlen : byteLen ((A ++ (B ++ C)).flatMap hex2L) = 40 := by
    rw [byteLen_ascii _ (hsz _), length_flatMap_hex2 isHex2_L]
    simp [hA, hB, hC]
  have vA : parseHexU64 (A.flatMap hex2L) = some (beVal A) := parseHex_bytes isHex2_L (k := 8) (by omega) hA
  have vB : parseHexU64 (B.flatMap hex2L) = some (beVal B) := parseHex_bytes isHex2_L (k := 8) (by omega) hB
  have vC : parseHexU32 (C.flatMap hex2L) = some (beVal C) := parseHex_bytes isHex2_L (k := 4) (by omega) hC
  unfold parseV6
  simp only [stripPrefix, if_true]
  rw [if_neg (fun hne => hne hlen)]
  simp only [List.flatMap_append, hcut A _ hA, vA, hcut B _ hB, vB, vC, beBytes_beVal 8 A hA, beBytes_beVal 8 B hB,
    beBytes_beVal 4 C hC, List.append_assoc]

/-! rejections needed for the enum's precedence -/

theorem splitOnce_tagged (c : Char) (tail : Text) (hc : c ≠ ':') :
    splitOnce ':' ('r' :: c :: ':' :: tail) = some (['r', c], tail) :=
  splitOnce_append (a := ['r', c]) (by simp [Ne.symm hc])

theorem parseDec_r (bound : Nat) (r : Text) : parseUnsigned decVal 10 bound ('r' :: r) = none :=
  parseDec_bad 'r' (by simp) (by decide) (by decide)

theorem parseStd_tagged {c : Char} {tail : Text} (hc : c ≠ ':') : parseStd ('r' :: c :: ':' :: tail) = .err := by
  unfold parseStd
  rw [wk_parse_none _ (Or.inl (by simp)), splitOnce_tagged c tail hc]
  simp only [stripAs_of_head 'r' _ (by decide) (by decide), parseDecU16, parseDec_r]

theorem parseLarge_tagged {c : Char} {tail : Text} (hc : c ≠ ':') : parseLarge ('r' :: c :: ':' :: tail) = .err := by
  unfold parseLarge
  rw [splitOnce_tagged c tail hc]
  simp only [stripAs_of_head 'r' _ (by decide) (by decide), parseDecU32, parseDec_r]

theorem parseLarge_hex {H : Text} (hcol : ':' ∉ H) : parseLarge ('0' :: 'x' :: H) = .err := by
  have : parseDecU32 ('0' :: 'x' :: H) = none := parseDec_bad 'x' (by simp) (by decide) (by decide)
  unfold parseLarge
  rw [splitOnce_none (colon_not_mem_0x hcol)]
  simp only [stripAs_of_head '0' _ (by decide) (by decide), this]

theorem parseStd_large (a b c : Nat) : parseStd (showDec a ++ ':' :: (showDec b ++ ':' :: showDec c)) = .err := by
  unfold parseStd
  rw [wk_parse_none _ (Or.inl (by simp)), splitOnce_append (not_mem_showDec (by decide) _)]
  simp only
  have : parseDecU16 (showDec b ++ ':' :: showDec c) = none := parseDec_bad ':' (by simp) (by decide) (by decide)
  rw [this]
  cases parseDecU16 (stripAs (showDec a)) <;> rfl

def namesParse : Bool :=
  wkRows.all fun row => (row.names ++ [row.var]).all fun nm =>
    match Wk.parse nm with
    | some w => w.toU32 == row.value
    | none => false
theorem namesParse_ok : namesParse = true := by decide +kernel

theorem lowerChar_upper : ∀ n, n < 91 → 65 ≤ n → lowerChar (lowerChar (Char.ofNat n)) = lowerChar (Char.ofNat n) := by
  decide +kernel

theorem lowerChar_idem (c : Char) : lowerChar (lowerChar c) = lowerChar c := by
  by_cases h : 65 ≤ c.toNat ∧ c.toNat ≤ 90
  · have := lowerChar_upper c.toNat (by omega) h.1
    rwa [Char.ofNat_toNat] at this
  · by_cases hk : c.toNat = 0x212A
    · obtain rfl : c = Char.ofNat 0x212A := by rw [← hk, Char.ofNat_toNat]
      decide
    · simp only [lowerChar, if_neg h, if_neg hk]

theorem lower_idem (s : Text) : lower (lower s) = lower s := by
  unfold lower; rw [List.map_map]; apply List.map_congr_left; intro c _; exact lowerChar_idem c

end Rc.Lemmas.Community
