/- For the BMP round-trip theorems: big-endian values, the fields of a concatenation, what the
reference encoders accept as input, and each encoding read back by the accessor that decodes it. -/
import Rc.Lemmas.Bmp

namespace Rc.Bmp
open Rc

theorem beAt_zero_append (a b : Bytes) (n : Nat) (h : n ≤ a.length) : beAt (a ++ b) 0 n = beAt a 0 n := by
  unfold beAt
  simp [List.take_append_of_le_length h]

theorem beNat_one (b : UInt8) : beNat [b] = b.toNat := by simp [beNat]

theorem beNat_foldl (b : Bytes) (acc : Nat) :
    b.foldl (fun acc x => acc * 256 + x.toNat) acc = acc * 256 ^ b.length + beNat b := by
  induction b generalizing acc with
  | nil => simp [beNat]
  | cons x b ih =>
    simp only [List.foldl_cons, List.length_cons, beNat]
    rw [ih, ih (0 * 256 + x.toNat)]
    simp [Nat.pow_succ, Nat.add_mul, Nat.mul_assoc, Nat.mul_comm 256]
    omega

theorem beNat_append (a b : Bytes) : beNat (a ++ b) = beNat a * 256 ^ b.length + beNat b := by
  unfold beNat
  rw [List.foldl_append, beNat_foldl]
  rfl

theorem beNat_byte (n : Nat) : beNat [UInt8.ofNat n] = n % 256 := by
  simp [beNat, UInt8.toNat_ofNat']

theorem beNat_be16_mod (n : Nat) : beNat (be16 n) = n % 65536 := by
  simp [beNat, be16, UInt8.toNat_ofNat']; omega

theorem be32_eq (n : Nat) : be32 n = be16 (n / 65536) ++ be16 n := by
  simp [be32, be16, Nat.div_div_eq_div_mul]

theorem beNat_be32_mod (n : Nat) : beNat (be32 n) = n % 4294967296 := by
  rw [be32_eq, beNat_append, beNat_be16_mod, beNat_be16_mod, be16_length]
  omega

theorem beNat_be16 (n : Nat) (h : n < 65536) : beNat (be16 n) = n := by
  rw [beNat_be16_mod, Nat.mod_eq_of_lt h]

theorem beNat_be32 (n : Nat) (h : n < 4294967296) : beNat (be32 n) = n := by
  rw [beNat_be32_mod, Nat.mod_eq_of_lt h]

theorem beNat_be64 (n : Nat) (h : n < 18446744073709551616) : beNat (be64 n) = n := by
  rw [be64, beNat_append, beNat_be32_mod, beNat_be32_mod, be32_length]
  omega

/-- the octets `x` stand at offset `a` of `bs`: an encoder concatenates fields, a decoder reads at offsets -/
def Field (bs : Bytes) (a : Nat) (x : Bytes) : Prop :=
  ∃ pre rest, bs = pre ++ (x ++ rest) ∧ pre.length = a

namespace Field
variable {bs x y r pre : Bytes} {a b n : Nat}

theorem refl (x : Bytes) : Field x 0 x := ⟨[], [], by rw [List.append_nil, List.nil_append], rfl⟩

theorem mid (h : pre.length = a) (rest : Bytes) : Field (pre ++ (x ++ rest)) a x := ⟨pre, rest, rfl, h⟩

theorem last (h : pre.length = a) : Field (pre ++ x) a x := ⟨pre, [], by rw [List.append_nil], h⟩

theorem left (h : Field bs a (y ++ r)) : Field bs a y := by
  obtain ⟨p, rest, rfl, rfl⟩ := h
  exact ⟨p, r ++ rest, by rw [List.append_assoc], rfl⟩

theorem right (h : Field bs a (y ++ r)) (hn : y.length = n) : Field bs (a + n) r := by
  obtain ⟨p, rest, rfl, rfl⟩ := h
  exact ⟨p ++ y, rest, by simp only [List.append_assoc], by rw [List.length_append, hn]⟩

theorem sub (h : Field bs a x) (hy : Field x b y) : Field bs (a + b) y := by
  obtain ⟨p, rest, rfl, rfl⟩ := h
  obtain ⟨q, r, rfl, rfl⟩ := hy
  exact ⟨p ++ q, r ++ rest, by simp only [List.append_assoc], by rw [List.length_append]⟩

theorem first {v : UInt8} (h : Field bs a (v :: r)) : Field bs a [v] := left (y := [v]) h

theorem rest {v : UInt8} (h : Field bs a (v :: r)) : Field bs (a + 1) r := right (y := [v]) h rfl

theorem le (h : Field bs a x) : a + x.length ≤ bs.length := by
  obtain ⟨p, rest, rfl, rfl⟩ := h
  simp only [List.length_append]; omega

theorem drop_take (h : Field bs a x) : (bs.drop a).take x.length = x := by
  obtain ⟨p, rest, rfl, rfl⟩ := h
  rw [List.drop_left, List.take_left]

theorem drop (h : Field bs a x) (hend : a + x.length = bs.length) : bs.drop a = x := by
  rw [← h.drop_take, List.take_of_length_le (by rw [List.length_drop]; omega)]

theorem beAt (h : Field bs a x) (hn : x.length = n) : beAt bs a n = beNat x := by
  rw [Rc.Bmp.beAt, ← hn, h.drop_take]

theorem beAt_be16 {v : Nat} (h : Field bs a (be16 v)) (hv : v < 65536) : Rc.Bmp.beAt bs a 2 = v := by
  rw [h.beAt (n := 2) rfl, beNat_be16 v hv]

theorem rdBE (h : Field bs a x) (hn : x.length = n) : rdBE bs a n = .ok (beNat x) := by
  rw [rdBE_ok (by have := h.le; omega), h.beAt hn]

theorem idx {v : UInt8} (h : Field bs a [v]) : idx bs a = .ok v.toNat := by
  rw [idx_ok (by have := h.le; simpa using this), h.beAt (n := 1) rfl, beNat_one]

theorem slice (h : Field bs a x) (hb : a + x.length = b) : slice bs a b = .ok x := by
  rw [slice_ok (by omega) (by have := h.le; omega), show b - a = x.length by omega, h.drop_take]

theorem frame {hd v tail : Bytes} {p : Nat} (F : Field bs p (hd ++ (be16 v.length ++ v) ++ tail))
    (h2 : hd.length = 2) (hv : v.length < 65536) :
    Rc.Bmp.beAt bs (p + 2) 2 = v.length ∧ Field bs (p + 4) v ∧ Field bs (p + 4 + v.length) tail ∧
      (hd ++ (be16 v.length ++ v) ++ tail).length = 4 + v.length + tail.length := by
  have fv := (F.left.right h2).right (n := 2) rfl
  refine ⟨(F.left.right h2).left.beAt_be16 hv, fv, ?_, ?_⟩
  · exact Nat.add_assoc .. ▸ F.right (n := 4 + v.length) (by simp [h2]; omega)
  · simp [h2]; omega

end Field

def WfPph (p : Pph) : Prop :=
  p.peerType < 256 ∧ p.flags < 256 ∧ p.distinguisher.length = 8 ∧ p.v6 = (p.flags / 128 % 2 == 1) ∧
  p.address.length = (if p.v6 then 16 else 4) ∧ p.asn < 4294967296 ∧ p.bgpId.length = 4 ∧
  p.tsSec < 4294967296 ∧ p.tsMicro < 4294967296

theorem addrField_length (v6 : Bool) (addr : Bytes) (h : addr.length = if v6 then 16 else 4) :
    (if v6 = true then addr else List.replicate 12 0 ++ addr).length = 16 := by
  cases v6 <;> simp [h]

theorem encPph_length (p : Pph) (hp : WfPph p) : (encPph p).length = 42 := by
  obtain ⟨_, _, h3, _, h5, _, h7, _, _⟩ := hp
  simp only [encPph, List.length_append, addrField_length _ _ h5, h3, h7, be32_length, List.length_cons,
    List.length_nil]

def WfStat : Stat → Prop
  | .u32 t v => isU32Stat t = true ∧ v < 4294967296
  | .u64 t v => isU64Stat t = true ∧ v < 18446744073709551616
  | .afiSafi t a s v => isAfiSafiStat t = true ∧ a < 65536 ∧ s < 256 ∧ v < 18446744073709551616
  | .unimplemented t l => t < 65536 ∧ l < 65536 ∧ ¬ (isU32Stat t = true ∧ l = 4) ∧ ¬ (isU64Stat t = true ∧ l = 8)
      ∧ ¬ (isAfiSafiStat t = true ∧ l = 11)

theorem isU32_lt {t : Nat} (h : isU32Stat t = true) : t < 65536 := by
  simp [isU32Stat] at h; omega
theorem isU64_lt {t : Nat} (h : isU64Stat t = true) : t < 65536 := by
  simp [isU64Stat] at h; omega
theorem isAfiSafi_lt {t : Nat} (h : isAfiSafiStat t = true) : t < 65536 := by
  simp [isAfiSafiStat] at h; omega

theorem getStat_field {bs : Bytes} {p : Nat} (s : Stat) (F : Field bs p (encStat s)) (h : WfStat s) :
    getStat bs p = .ok (s, p + (encStat s).length) := by
  -- `getStat_frame`, each read replaced by the field of `encStat s` it returns; the lengths 4, 8, 11 tell the kinds apart
  cases s with
  | u32 t v =>
    obtain ⟨ht, hv⟩ := h
    have hl := (F.left.right (n := 2) rfl).beAt_be16 (v := 4) (by omega)
    rw [getStat_frame (by rw [hl]; exact F.le), hl, F.left.left.beAt_be16 (isU32_lt ht),
      (F.right (n := 4) rfl).beAt (n := 4) rfl, beNat_be32 v hv, if_pos ⟨ht, rfl⟩]
    rfl
  | u64 t v =>
    obtain ⟨ht, hv⟩ := h
    have hl := (F.left.right (n := 2) rfl).beAt_be16 (v := 8) (by omega)
    rw [getStat_frame (by rw [hl]; exact F.le), hl, F.left.left.beAt_be16 (isU64_lt ht),
      (F.right (n := 4) rfl).beAt (n := 8) rfl, beNat_be64 v hv,
      if_neg (by omega), if_pos ⟨ht, rfl⟩]
    rfl
  | afiSafi t a s v =>
    obtain ⟨ht, ha, hs, hv⟩ := h
    have hl := (F.left.left.left.right (n := 2) rfl).beAt_be16 (v := 11) (by omega)
    rw [getStat_frame (by rw [hl]; exact F.le), hl, F.left.left.left.left.beAt_be16 (isAfiSafi_lt ht),
      (F.left.left.right (n := 4) rfl).beAt_be16 ha,
      (F.left.right (n := 6) rfl).beAt (n := 1) rfl, beNat_byte, Nat.mod_eq_of_lt hs,
      (F.right (n := 7) rfl).beAt (n := 8) rfl, beNat_be64 v hv,
      if_neg (by omega), if_neg (by omega), if_pos ⟨ht, rfl⟩]
    rfl
  | unimplemented t l =>
    obtain ⟨ht, hl, h1, h2, h3⟩ := h
    have hl' := (F.left.right (n := 2) rfl).beAt_be16 hl
    have hlen : (encStat (.unimplemented t l)).length = 4 + l := by
      simp [encStat]; omega
    rw [getStat_frame (by rw [hl']; have := F.le; omega), hl', F.left.left.beAt_be16 ht,
      if_neg h1, if_neg h2, if_neg h3, hlen, Nat.add_assoc]

theorem statIter_field {bs : Bytes} {p : Nat} (ss : List Stat) (F : Field bs p (ss.flatMap encStat))
    (h : ∀ s ∈ ss, WfStat s) : statIter bs ss.length p = .ok ss := by
  induction ss generalizing p with
  | nil => rfl
  | cons s ss ih =>
    rw [List.flatMap_cons] at F
    rw [List.length_cons, statIter, getStat_field s F.left (h s (by simp))]
    dsimp only
    rw [ih (F.right rfl) fun x hx => h x (by simp [hx])]

def WfTlv (t : Nat × Nat × Bytes) : Prop := t.1 < 65536 ∧ t.2.1 = t.2.2.length ∧ t.2.2.length < 65536

/-- `f`: fuel; more than the octets left is enough, an item takes one unit and at least four octets -/
theorem infoTlvIter_field {bs : Bytes} {p f : Nat} (ts : List (Nat × Nat × Bytes))
    (F : Field bs p (ts.flatMap encTlv)) (hend : p + (ts.flatMap encTlv).length = bs.length)
    (hf : (ts.flatMap encTlv).length < f) (h : ∀ t ∈ ts, WfTlv t) : infoTlvIter bs f p = .ok ts := by
  induction ts generalizing p f with
  | nil =>
    cases f with
    | zero => exact absurd hf (Nat.not_lt_zero _)
    | succ f => rw [infoTlvIter, if_pos (by simpa using hend)]
  | cons t ts ih =>
    cases f with
    | zero => exact absurd hf (Nat.not_lt_zero _)
    | succ f =>
      obtain ⟨typ, len, v⟩ := t
      obtain ⟨h1, h2, h3⟩ := h _ (List.mem_cons_self ..)
      dsimp only at h1 h2 h3
      subst h2
      rw [List.flatMap_cons, show encTlv (typ, v.length, v) = be16 typ ++ (be16 v.length ++ v) from
        List.append_assoc ..] at F hend hf
      obtain ⟨hl, fv, ft, hlen⟩ := F.frame rfl h3
      rw [hlen] at hend hf
      rw [infoTlvIter_step (by rw [hl]; exact fv.le), hl,
        F.left.left.beAt_be16 h1, fv.drop_take,
        ih ft (by omega) (by omega) fun x hx => h x (List.mem_cons_of_mem _ hx),
        Outcome.bind_ok]

def encTerm : TermInfo → Bytes
  | .customString raw => be16 0 ++ be16 raw.length ++ raw
  | .reason v => be16 1 ++ be16 2 ++ be16 v
  | .undefinedTlv t => be16 t ++ be16 0

def WfTerm : TermInfo → Prop
  | .customString raw => raw.length < 65536
  | .reason v => v < 65536
  | .undefinedTlv _ => False

theorem termItem_enc (t : TermInfo) (h : WfTerm t) :
    ∃ typ v, encTerm t = be16 typ ++ (be16 v.length ++ v) ∧ typ < 65536 ∧ v.length < 65536 ∧
      (if typ = 0 then TermInfo.customString v else if v.length = 2 then TermInfo.reason (beNat v)
        else TermInfo.undefinedTlv typ) = t := by
  cases t with
  | customString raw => exact ⟨0, raw, List.append_assoc .., by omega, h, rfl⟩
  | reason v => exact ⟨1, be16 v, rfl, by omega, by simp, by simp [beNat_be16 v h]⟩
  | undefinedTlv t => exact absurd h (by simp [WfTerm])

theorem termIter_field {bs : Bytes} {p f : Nat} (ts : List TermInfo)
    (F : Field bs p (ts.flatMap encTerm)) (hend : p + (ts.flatMap encTerm).length = bs.length)
    (hf : (ts.flatMap encTerm).length < f) (h : ∀ t ∈ ts, WfTerm t) : termIter bs f p = .ok ts := by
  induction ts generalizing p f with
  | nil =>
    cases f with
    | zero => exact absurd hf (Nat.not_lt_zero _)
    | succ f => rw [termIter, if_pos (by simpa using hend)]
  | cons t ts ih =>
    cases f with
    | zero => exact absurd hf (Nat.not_lt_zero _)
    | succ f =>
      obtain ⟨typ, v, he, h1, h3, hitem⟩ := termItem_enc t (h t (List.mem_cons_self ..))
      rw [List.flatMap_cons, he] at F hend hf
      obtain ⟨hl, fv, ft, hlen⟩ := F.frame rfl h3
      rw [hlen] at hend hf
      rw [termIter_step (by rw [hl]; exact fv.le), hl,
        F.left.left.beAt_be16 h1, fv.drop_take, hitem,
        ih ft (by omega) (by omega) fun x hx => h x (List.mem_cons_of_mem _ hx),
        Outcome.bind_ok]

end Rc.Bmp
