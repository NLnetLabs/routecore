/-
Lemmas for C07 (Rc/Model/Reenc.lean): the flags octet of the `Unimplemented` /
`Invalid` arms, reading back what the two arms write, what `decAttr` can
return, typed values that come out of the parser.
-/
import Rc.Model.Reenc
import Rc.Thm.C04

namespace Rc.Reenc
open Rc Rc.AsPath Rc.Attr

/-! ### the flags octet -/

/-- the octet `x` has the optional and transitive bits and the four low bits of `f`, PARTIAL set, and `e` as
its EXTENDED_LEN bit -/
abbrev FlagsOf (f x e : Nat) : Prop :=
  x < 256 ∧ x / 128 % 2 = f / 128 % 2 ∧ x / 64 % 2 = f / 64 % 2 ∧ x / 32 % 2 = 1 ∧ x / 16 % 2 = e ∧ x % 16 = f % 16

theorem partial_bits : ∀ f, f < 256 → FlagsOf f ((f ||| 0x20) &&& 0xEF) 0 := by
  decide +kernel

theorem partial_ext_bits : ∀ f, f < 256 → FlagsOf f (f ||| 0x20 ||| 0x10) 1 := by
  decide +kernel

/-- optional, transitive and the four low bits as carried; PARTIAL set;
EXTENDED_LEN exactly for values longer than 255 octets -/
theorem rawFlags_bits (f n : Nat) (hf : f < 256) :
    rawFlags f n < 256 ∧ rawFlags f n / 128 % 2 = f / 128 % 2 ∧ rawFlags f n / 64 % 2 = f / 64 % 2 ∧
      rawFlags f n / 32 % 2 = 1 ∧ rawFlags f n / 16 % 2 = (if n > 255 then 1 else 0) ∧
      rawFlags f n % 16 = f % 16 := by
  unfold rawFlags
  by_cases h : n > 255
  · simp only [h, if_true]; exact partial_ext_bits f hf
  · simp only [h, if_false]; exact partial_bits f hf

theorem rawFlags_toNat (f n : Nat) (hf : f < 256) : (UInt8.ofNat (rawFlags f n)).toNat = rawFlags f n :=
  UInt8.toNat_ofNat_of_lt' (rawFlags_bits f n hf).1

theorem rawFlags_ext (f n : Nat) (hf : f < 256) :
    extBit (UInt8.ofNat (rawFlags f n)) = decide (n > 255) := by
  unfold extBit
  rw [rawFlags_toNat f n hf]
  have := (rawFlags_bits f n hf).2.2.2.2.1
  by_cases h : n > 255 <;> simp [h] at this ⊢ <;> omega

/-! ### the two raw arms -/

theorem rawHeader_length (f c n : Nat) : (rawHeader f c n).length = headerLen n := by
  unfold rawHeader headerLen
  split <;> simp

theorem rawHeader_rawAttr (f : Nat) (tc : UInt8) (v : Bytes) (hf : f < 256) (hv : v.length ≤ 65535) :
    rawHeader f tc.toNat v.length ++ v = Rc.Thm.C04.rawAttr (UInt8.ofNat (rawFlags f v.length)) tc v ∧
    Rc.Thm.C04.rawFits (UInt8.ofNat (rawFlags f v.length)) v = true ∧
    ∀ r, splitAttr (rawHeader f tc.toNat v.length ++ v ++ r) = some (UInt8.ofNat (rawFlags f v.length), tc, v, r) := by
  have h : rawHeader f tc.toNat v.length ++ v = Rc.Thm.C04.rawAttr (UInt8.ofNat (rawFlags f v.length)) tc v ∧
      Rc.Thm.C04.rawFits (UInt8.ofNat (rawFlags f v.length)) v = true := by
    unfold Rc.Thm.C04.rawAttr Rc.Thm.C04.rawFits rawHeader
    rw [rawFlags_ext f _ hf]
    by_cases h : v.length > 255
    · have : min v.length 65535 = v.length := by omega
      simp [h, this]; omega
    · have : min v.length 255 = v.length := by omega
      simp [h, this]; omega
  exact ⟨h.1, h.2, fun r => h.1 ▸ Rc.Thm.C04.splitAttr_raw _ tc v r h.2⟩

/-! ### what `splitAttr` / `decAttr` return -/

theorem splitAttr_spec {bs : Bytes} {fl tc : UInt8} {v r : Bytes} (h : splitAttr bs = some (fl, tc, v, r)) :
    v.length ≤ 65535 ∧ bs.length = (if extBit fl then 4 else 3) + v.length + r.length ∧
      bs = Rc.Thm.C04.rawAttr fl tc v ++ r ∧ (extBit fl = false → v.length ≤ 255) := by
  match bs, h with
  | a :: b :: rest, h =>
    unfold splitAttr at h
    by_cases hx : extBit a = true
    · simp only [hx, if_true] at h
      match rest, h with
      | x :: y :: r0, h =>
        simp only [rd16] at h
        cases ht : takeN (x.toNat * 256 + y.toNat) r0 with
        | none => simp [ht] at h
        | some p =>
          obtain ⟨v', r'⟩ := p
          simp only [ht, Option.some.injEq, Prod.mk.injEq] at h
          obtain ⟨rfl, rfl, rfl, rfl⟩ := h
          obtain ⟨hl, he⟩ := takeN_length ht
          have := x.toNat_lt; have := y.toNat_lt
          refine ⟨by omega, by simp [hx, he]; omega, ?_, by simp [hx]⟩
          unfold Rc.Thm.C04.rawAttr
          simp only [hx, if_true, hl, be16_eq, he, List.cons_append, List.nil_append]
      | [], h => simp [rd16] at h
      | [_], h => simp [rd16] at h
    · simp only [hx, Bool.false_eq_true, if_false] at h
      match rest, h with
      | x :: r0, h =>
        simp only [rd8] at h
        cases ht : takeN x.toNat r0 with
        | none => simp [ht] at h
        | some p =>
          obtain ⟨v', r'⟩ := p
          simp only [ht, Option.some.injEq, Prod.mk.injEq] at h
          obtain ⟨rfl, rfl, rfl, rfl⟩ := h
          obtain ⟨hl, he⟩ := takeN_length ht
          have := x.toNat_lt
          have hxf : extBit a = false := by simpa using hx
          refine ⟨by omega, by simp [hxf, he]; omega, ?_, fun _ => by omega⟩
          unfold Rc.Thm.C04.rawAttr
          simp only [hxf, Bool.false_eq_true, if_false, hl, he, List.cons_append, UInt8.ofNat_toNat]
      | [], h => simp [rd8] at h

/-! ### values that come out of the value parsers -/

theorem dec32O_spec (v : Bytes) (l : List Nat) (h : dec32O v = .ok l) : l.all u32ok = true ∧ enc32 l = v := by
  fun_induction dec32O v generalizing l with
  | case1 => cases h; simp
  | case2 a b c d r l' hr ih =>
    cases h
    obtain ⟨i1, i2⟩ := ih l' hr
    have := a.toNat_lt; have := b.toNat_lt; have := c.toNat_lt; have := d.toNat_lt
    refine ⟨?_, ?_⟩
    · simp only [List.all_cons, i1, Bool.and_true, u32ok, decide_eq_true_eq]; omega
    · simp only [enc32_cons, be32_eq, i2]; rfl
  | _ => cases h

theorem dec32O_some : ∀ (v : Bytes), v.length % 4 = 0 → ∃ l, dec32O v = .ok l
  | [], _ => ⟨[], rfl⟩
  | a :: b :: c :: d :: r, hm => by
    obtain ⟨l, hl⟩ := dec32O_some r (by simp at hm; omega)
    exact ⟨(a.toNat * 16777216 + b.toNat * 65536 + c.toNat * 256 + d.toNat) :: l, by simp [dec32O, hl]⟩
  | [_], hm => by simp at hm
  | [_, _], hm => by simp at hm
  | [_, _, _], hm => by simp at hm

theorem chunkO_spec (k f : Nat) (v : Bytes) (l : List Bytes) (h : chunkO k f v = .ok l) :
    recsOk k l = true ∧ l.flatten = v := by
  fun_induction chunkO k f v generalizing l with
  | case1 v he | case3 f v he => cases h; simp [recsOk, List.isEmpty_iff.mp he]
  | case5 f v _ c r ht l' hr ih =>
    cases h
    obtain ⟨i1, i2⟩ := ih l' hr
    obtain ⟨hl, hv⟩ := takeN_length ht
    simp only [recsOk, List.all_cons, Bool.and_eq_true, beq_iff_eq] at i1 ⊢
    exact ⟨⟨hl, i1⟩, by simp [i2, hv]⟩
  | _ => cases h

theorem chunkO_some (k : Nat) (hk : 0 < k) (f : Nat) (v : Bytes) (hf : v.length ≤ f) (hm : v.length % k = 0) :
    ∃ l, chunkO k f v = .ok l := by
  fun_induction chunkO k f v with
  | case1 | case3 | case5 => exact ⟨_, rfl⟩
  | case2 v he => exact absurd (List.length_eq_zero_iff.mp (Nat.le_zero.mp hf)) (by simpa using he)
  | case4 f v he ht =>
    have hkl : k ≤ v.length := Nat.le_of_dvd (List.length_pos_iff.mpr (by simpa using he)) (Nat.dvd_of_mod_eq_zero hm)
    simp [takeN, hkl] at ht
  | case6 f v he c r ht hr ih | case7 f v he c r ht hr ih =>
    obtain ⟨hl, rfl⟩ := takeN_length ht
    rw [List.length_append, hl, Nat.add_mod_left] at hm
    obtain ⟨l, h⟩ := ih (by simp at hf; omega) hm
    rw [hr] at h; cases h

theorem canonical_of_validate {c : Nat} {four : Bool} {v : Bytes} {b : Bool} (h : validate c four v = some b) :
    ∃ cf, canonicalFlags c = some cf ∧ (cf = 0x40 ∨ cf = 0x80 ∨ cf = 0xC0) ∧ c < 256 :=
  have ⟨h1, h2, h3⟩ := typedCodes_flags c (typed_of_validate h)
  ⟨_, h2, h1, h3⟩

theorem validate_none_of_canonical {c : Nat} {four : Bool} {v : Bytes} (h : canonicalFlags c = none) :
    validate c four v = none :=
  validate_none h four v

theorem canonical_none_of_validate {c : Nat} {v : Bytes} (h : validate c true v = none) : canonicalFlags c = none := by
  cases hc : canonicalFlags c with
  | none => rfl
  | some cf =>
    have hv : ∃ b, validate c true v = some b := by
      by_cases h2 : c = 2
      · rw [h2]; exact (Rc.Thm.C04.path_rule true v).2.2.1
      · by_cases h17 : c = 17
        · rw [h17]; exact (Rc.Thm.C04.path_rule true v).2.2.2
        · exact ⟨_, Rc.Thm.C04.validate_is_length_rule _ cf true v hc h2 h17⟩
    obtain ⟨b, hb⟩ := hv
    rw [h] at hb; cases hb

/-- `v` encodes well-formed four-octet segments whose hops are `h` -/
def PathView (v : Bytes) (h : HopPath) : Prop :=
  ∃ ss : List Seg, (∀ s ∈ ss, s.wireOk true = true ∧ s.four = true) ∧ v = encSegs true ss ∧ h = hopsOfSegs ss

/-- a typed reading that composes back to the octets received: what `typed_spec` says of every kind
but the two AS paths -/
private def Exact (c : Nat) (v : Bytes) : Prop :=
  ∃ a, parseValue c true v = .ok a ∧ WfAttr a = true ∧ a.code = c ∧ composeValue a = .ok v

/-- the six kinds whose value is one 32-bit number -/
private theorem u32_kind (c : Nat) (mk : Nat → TypedAttr) (v : Bytes) (hl : v.length = 4)
    (hp : ∀ w n r, rd32 w = some (n, r) → parseValue c true w = .ok (mk n))
    (hm : ∀ n, WfAttr (mk n) = u32ok n ∧ (mk n).code = c ∧ composeValue (mk n) = .ok (be32 n)) : Exact c v := by
  obtain ⟨n, hn, hr, rfl⟩ := rd32_exact hl
  exact ⟨mk n, hp _ _ _ hr, by rw [(hm n).1]; simpa [u32ok] using hn, (hm n).2⟩

/-- AGGREGATOR and AS4_AGGREGATOR: two 32-bit numbers -/
private theorem aggr_kind (c : Nat) (mk : Nat → Nat → TypedAttr) (v : Bytes) (hl : v.length = 8)
    (hp : ∀ a r b r', rd32 v = some (a, r) → rd32 r = some (b, r') → parseValue c true v = .ok (mk a b))
    (hm : ∀ a b, WfAttr (mk a b) = (u32ok a && u32ok b) ∧ (mk a b).code = c ∧
      composeValue (mk a b) = .ok (be32 a ++ be32 b)) : Exact c v := by
  obtain ⟨a, r, hr⟩ := rd32_some (v := v) (by omega)
  obtain ⟨ha, rfl⟩ := rd32_spec hr
  obtain ⟨b, hb, hr', rfl⟩ := rd32_exact (v := r) (by simpa [be32] using hl)
  exact ⟨mk a b, hp _ _ _ _ hr hr', by rw [(hm a b).1]; simp [u32ok, ha, hb], (hm a b).2⟩

/-- the three kinds whose value is a sequence of `k`-octet records -/
private theorem recs_kind (c k : Nat) (hk : 0 < k) (mk : List Bytes → TypedAttr) (v : Bytes) (hl : v.length % k = 0)
    (hp : ∀ l, chunkO k v.length v = .ok l → parseValue c true v = .ok (mk l))
    (hm : ∀ l, WfAttr (mk l) = recsOk k l ∧ (mk l).code = c ∧ composeValue (mk l) = .ok l.flatten) : Exact c v := by
  obtain ⟨l, hd⟩ := chunkO_some k hk v.length v (Nat.le_refl _) hl
  obtain ⟨i1, i2⟩ := chunkO_spec k v.length v l hd
  exact ⟨mk l, hp l hd, by rw [(hm l).1]; exact i1, (hm l).2.1, by rw [(hm l).2.2, i2]⟩

private theorem path_kind (v : Bytes) (hv : pathValid true v = true) :
    ∃ h, parsePath true v = .ok h ∧ WfHops h = true ∧ AllFour h = true ∧ PathView v h := by
  have hc := check_of_pathValid hv
  obtain ⟨ss, hss, hve, _, hh, _⟩ := wire_view true v hc
  exact ⟨hopsOfSegs ss, by simp [parsePath, hc, hh], wfHops_hopsOfSegs true ss hss,
    allFour_hopsOfSegs ss (fun s hs => (hss s hs).2), ss, hss, hve, rfl⟩

/-- **every value `validate` accepts has a typed reading** (four-octet session):
`parse` succeeds, the value satisfies the type invariants of C04 (`WfAttr`, so
K2 cannot arise from a received attribute), it is of the kind of its code, and
except for the two AS path kinds `compose_value` writes back the very octets
received. -/
theorem typed_spec (c : Nat) (v : Bytes) (hv : validate c true v = some true) :
    ∃ a, parseValue c true v = .ok a ∧ WfAttr a = true ∧ a.code = c ∧
      ((c ≠ 2 ∧ c ≠ 17) → composeValue a = .ok v) ∧
      (c = 2 → ∃ h, a = .asPath h ∧ PathView v h) ∧ (c = 17 → ∃ h, a = .as4Path h ∧ PathView v h) := by
  have wf : ∀ a, WfAttr a = (WfAttrW a && pathsFour a) := fun _ => rfl
  by_cases h2 : c = 2
  · subst h2
    obtain ⟨h, p1, p2, p3, p4⟩ := path_kind v (by simpa [validate] using hv)
    exact ⟨.asPath h, by simp [parseValue, p1], by simp [wf, WfAttrW, pathsFour, p2, p3], rfl,
      fun hh => absurd rfl hh.1, fun _ => ⟨h, rfl, p4⟩, by simp⟩
  by_cases h17 : c = 17
  · subst h17
    obtain ⟨h, p1, p2, p3, p4⟩ := path_kind v (by simpa [validate] using hv)
    exact ⟨.as4Path h, by simp [parseValue, p1], by simp [wf, WfAttrW, pathsFour, p2, p3], rfl,
      fun hh => absurd rfl hh.2, by simp, fun _ => ⟨h, rfl, p4⟩⟩
  suffices h : Exact c v by
    obtain ⟨a, h1, hw, hc, h4⟩ := h
    exact ⟨a, h1, hw, hc, fun _ => h4, fun h => absurd h h2, fun h => absurd h h17⟩
  have hm := typed_of_validate hv
  simp only [typedCodes, List.mem_cons, List.not_mem_nil, or_false] at hm
  rcases hm with h | h | h | h | h | h | h | h | h | h | h | h | h | h | h | h | h | h | h | h <;>
    subst h
  · -- 1 ORIGIN
    have hl : v.length = 1 := by simpa [validate] using hv
    match v, hl with
    | [a], _ => exact ⟨.origin a.toNat, rfl, by simp [wf, WfAttrW, pathsFour, a.toNat_lt], rfl, by simp [composeValue]⟩
  · exact absurd rfl h2
  · -- 3 NEXT_HOP
    exact u32_kind 3 .nextHop v (by simpa [validate] using hv) (fun w n r h => by simp [parseValue, h])
      (fun _ => ⟨Bool.and_true _, rfl, rfl⟩)
  · -- 4 MED
    exact u32_kind 4 .med v (by simpa [validate] using hv) (fun w n r h => by simp [parseValue, h])
      (fun _ => ⟨Bool.and_true _, rfl, rfl⟩)
  · -- 5 LOCAL_PREF
    exact u32_kind 5 .localPref v (by simpa [validate] using hv) (fun w n r h => by simp [parseValue, h])
      (fun _ => ⟨Bool.and_true _, rfl, rfl⟩)
  · -- 6 ATOMIC_AGGREGATE
    have hl : v.length = 0 := by simpa [validate] using hv
    rw [List.eq_nil_of_length_eq_zero hl]
    exact ⟨.atomicAggregate, rfl, rfl, rfl, rfl⟩
  · -- 7 AGGREGATOR
    exact aggr_kind 7 .aggregator v (by simpa [validate] using hv) (fun a r b r' h h' => by simp [parseValue, h, h'])
      (fun _ _ => ⟨Bool.and_true _, rfl, rfl⟩)
  · -- 8 COMMUNITIES
    obtain ⟨l, hd⟩ := dec32O_some v (by simpa [validate] using hv)
    obtain ⟨i1, i2⟩ := dec32O_spec v l hd
    exact ⟨.communities (l.foldl SCL.add SCL.empty), by simp [parseValue, hd], Rc.Thm.C04.scl_wf l i1, rfl,
      by simp [composeValue, (Rc.Thm.C04.scl_bookkeeping l).1, i2]⟩
  · -- 9 ORIGINATOR_ID
    exact u32_kind 9 .originatorId v (by simpa [validate] using hv) (fun w n r h => by simp [parseValue, h])
      (fun _ => ⟨Bool.and_true _, rfl, rfl⟩)
  · -- 10 CLUSTER_LIST
    obtain ⟨l, hd⟩ := dec32O_some v (by simpa [validate] using hv)
    obtain ⟨i1, i2⟩ := dec32O_spec v l hd
    exact ⟨.clusterList l, by simp [parseValue, hd], by simp [wf, WfAttrW, pathsFour, i1], rfl, by simp [composeValue, i2]⟩
  · -- 16 EXTENDED_COMMUNITIES
    exact recs_kind 16 8 (by omega) .extCommunities v (by simpa [validate] using hv) (fun l h => by simp [parseValue, h])
      (fun _ => ⟨Bool.and_true _, rfl, rfl⟩)
  · exact absurd rfl h17
  · -- 18 AS4_AGGREGATOR
    exact aggr_kind 18 .as4Aggregator v (by simpa [validate] using hv) (fun a r b r' h h' => by simp [parseValue, h, h'])
      (fun _ _ => ⟨Bool.and_true _, rfl, rfl⟩)
  · -- 20 CONNECTOR
    exact u32_kind 20 .connector v (by simpa [validate] using hv) (fun w n r h => by simp [parseValue, h])
      (fun _ => ⟨Bool.and_true _, rfl, rfl⟩)
  · -- 21 AS_PATHLIMIT
    have hl : v.length = 5 := by simpa [validate] using hv
    match v, hl with
    | x :: r, hl =>
      obtain ⟨n, hn, hr, rfl⟩ := rd32_exact (v := r) (by simpa using hl)
      exact ⟨.asPathLimit x.toNat n, by simp [parseValue, rd8, hr], by simp [wf, WfAttrW, pathsFour, u32ok, hn, x.toNat_lt],
        rfl, by simp [composeValue]⟩
  · -- 25 IPV6_EXTENDED_COMMUNITIES
    exact recs_kind 25 20 (by omega) .ipv6ExtCommunities v (by simpa [validate] using hv)
      (fun l h => by simp [parseValue, h]) (fun _ => ⟨Bool.and_true _, rfl, rfl⟩)
  · -- 32 LARGE_COMMUNITIES
    exact recs_kind 32 12 (by omega) .largeCommunities v (by simpa [validate] using hv)
      (fun l h => by simp [parseValue, h]) (fun _ => ⟨Bool.and_true _, rfl, rfl⟩)
  · -- 35 OTC
    exact u32_kind 35 .otc v (by simpa [validate] using hv) (fun w n r h => by simp [parseValue, h])
      (fun _ => ⟨Bool.and_true _, rfl, rfl⟩)
  · -- 128 ATTR_SET
    obtain ⟨n, r, hr⟩ := rd32_some (v := v) (by simpa [validate] using hv)
    obtain ⟨hn, hvr⟩ := rd32_spec hr
    exact ⟨.attrSet n r, by simp [parseValue, hr], by simp [wf, WfAttrW, pathsFour, u32ok, hn], rfl, by simp [composeValue, hvr]⟩
  · -- 255 Reserved
    exact ⟨.reserved v, by simp [parseValue], rfl, rfl, rfl⟩

/-! ### one attribute, re-encoded -/

/-- what decoding the re-encoding of an owned attribute yields: the same
attribute; an `Unimplemented` one carries the flags octet that was written -/
def renorm : Decoded → Decoded
  | .unimplemented f c v => .unimplemented (rawFlags f v.length) c v
  | d => d

/-- the AS path attributes of a section re-compose into a value the length
field can express (`Rc.Thm.C07.paths_fit`: always so for sections of at most
43690 octets) -/
def FitsD : Decoded → Prop
  | .typed a => (a.code = 2 ∨ a.code = 17) → ∀ w, composeValue a = .ok w → w.length ≤ 65535
  | _ => True

/-- flags (as a number), code and value octets an independent header walk must
find in the re-encoding of `d` -/
def WireOk (d : Decoded) (fl tc : UInt8) (v : Bytes) : Prop :=
  tc.toNat = codeOf d ∧
  match d with
  | .typed a => composeValue a = .ok v ∧ canonicalFlags tc.toNat = some a.flags ∧
      fl.toNat = a.flags + (if v.length > 255 then 16 else 0)
  | .unimplemented f _ w => v = w ∧ fl.toNat = rawFlags f w.length
  | .invalid f _ w => v = w ∧ fl.toNat = rawFlags f w.length

theorem decAttr_cases {bs r : Bytes} {od : Outcome Decoded} (h : decAttr true bs = .ok (od, r)) :
    ∃ fl tc v, splitAttr bs = some (fl, tc, v, r) ∧
      ((validate tc.toNat true v = some true ∧ od = (match parseValue tc.toNat true v with | .ok a => .ok (.typed a) | _ => .err)) ∨
       (validate tc.toNat true v = some false ∧
          od = .ok (.invalid ((canonicalFlags tc.toNat).getD 0) tc.toNat v)) ∨
       (validate tc.toNat true v = none ∧ od = .ok (.unimplemented fl.toNat tc.toNat v))) := by
  unfold decAttr parseWire at h
  cases hs : splitAttr bs with
  | none => simp [hs] at h
  | some q =>
    obtain ⟨fl, tc, v, r0⟩ := q
    refine ⟨fl, tc, v, ?_⟩
    rcases hv : validate tc.toNat true v with _ | _ | _
    all_goals
      simp only [hs, hv, Outcome.ok.injEq, Prod.mk.injEq] at h
      obtain ⟨rfl, rfl⟩ := h
    · exact ⟨rfl, .inr (.inr ⟨rfl, rfl⟩)⟩
    · exact ⟨rfl, .inr (.inl ⟨rfl, rfl⟩)⟩
    · exact ⟨rfl, .inl ⟨rfl, rfl⟩⟩

theorem codeOf_decAttr {bs r : Bytes} {d : Decoded} (h : decAttr true bs = .ok (.ok d, r)) :
    ∃ fl tc v, splitAttr bs = some (fl, tc, v, r) ∧ codeOf d = tc.toNat := by
  obtain ⟨fl, tc, v, hs, hcase⟩ := decAttr_cases h
  refine ⟨fl, tc, v, hs, ?_⟩
  rcases hcase with ⟨hv, ho⟩ | ⟨_, ho⟩ | ⟨_, ho⟩
  · obtain ⟨a, hp, _, hcode, _⟩ := typed_spec tc.toNat v hv
    simp only [hp, Outcome.ok.injEq] at ho
    subst ho; exact hcode
  · cases ho; rfl
  · cases ho; rfl

theorem decAll_ind {P : Nat → Bytes → List (Outcome Decoded) → Prop} (nil : ∀ f, P f [] [])
    (cons : ∀ f bs od r l, decAttr true bs = .ok (od, r) → r.length < bs.length → P f r l → P (f + 1) bs (od :: l))
    (f : Nat) (bs : Bytes) (ds : List (Outcome Decoded)) (h : decAll true f bs = .ok ds) : P f bs ds := by
  fun_induction decAll true f bs generalizing ds with
  | case1 bs he => cases h; rw [List.isEmpty_iff.mp he]; exact nil 0
  | case3 f bs he => cases h; rw [List.isEmpty_iff.mp he]; exact nil _
  | case4 f bs _ od r hd l hr ih =>
    cases h
    obtain ⟨fl, tc, v, hs, _⟩ := decAttr_cases hd
    obtain ⟨_, hlen, _, _⟩ := splitAttr_spec hs
    exact cons f bs od r l hd (by split at hlen <;> omega) (ih l hr)
  | _ => cases h

theorem attrsWalk_iff : ∀ (f : Nat) (bs : Bytes), attrsWalk f bs = .ok () ↔ ∃ l, decAll true f bs = .ok l
  | 0, bs => by
    unfold attrsWalk decAll
    split <;> simp
  | f + 1, bs => by
    unfold attrsWalk decAll decAttr
    split
    · simp
    · cases parseWire true bs with
      | ok p =>
        have ih := attrsWalk_iff f p.2
        cases hr : decAll true f p.2 <;> simp_all
      | err => simp
      | panic => simp

/-- **one attribute**: whatever `PathAttributes::next` + `to_owned` return for
the head of a buffer is an owned attribute; composing it succeeds; `compose_len`
is the number of octets written; decoding those octets (whatever follows) gives
the attribute back, and an independent header walk finds the code, the
prescribed flags and the value. -/
theorem reencode_one {bs r : Bytes} {od : Outcome Decoded} (h : decAttr true bs = .ok (od, r)) :
    ∃ d, od = .ok d ∧ (FitsD d →
      ∃ e, encOwned d = .ok e ∧ lenOwned d = .ok e.length ∧ 3 ≤ e.length ∧
        ∀ r', decAttr true (e ++ r') = .ok (.ok (renorm d), r') ∧
          ∃ fl tc v, splitAttr (e ++ r') = some (fl, tc, v, r') ∧ WireOk d fl tc v) := by
  obtain ⟨fl, tc, v, hs, hcase⟩ := decAttr_cases h
  obtain ⟨hv65, _, _, _⟩ := splitAttr_spec hs
  rcases hcase with ⟨hv, rfl⟩ | ⟨hv, rfl⟩ | ⟨hv, rfl⟩
  · -- typed
    obtain ⟨a, hp, hwf, hcode, hval, _, _⟩ := typed_spec tc.toNat v hv
    refine ⟨.typed a, by simp [hp], fun hfit => ?_⟩
    have hw : WfAttrW a = true := (Bool.and_eq_true_iff.mp hwf).1
    obtain ⟨w, c1, c2, c3, c4⟩ := value_spec a hw
    have hfit' : w.length ≤ 65535 := by
      by_cases hpth : tc.toNat = 2 ∨ tc.toNat = 17
      · exact hfit (by rw [hcode]; exact hpth) w c1
      · have := hval (by omega)
        rw [c1] at this
        cases this; exact hv65
    obtain ⟨hf, hcf, hlt⟩ := flags_cases a
    have henc : encAttr a = .ok (composeHeader a.flags a.code w.length ++ w) := by simp [encAttr, c1, c2]
    refine ⟨_, henc, by simp [lenOwned, composeLen, c2, composeHeader_length], ?_, fun r' => ?_⟩
    · simp only [List.length_append, composeHeader_length, headerLen]; split <;> omega
    · have hsp := splitAttr_composeHeader a.flags a.code w.length w r' hf rfl hfit'
      have hcd : (UInt8.ofNat a.code).toNat = a.code := UInt8.toNat_ofNat_of_lt' hlt
      have hnorm : a.norm = a := norm_of_wf a hwf
      refine ⟨?_, _, _, _, by rw [List.append_assoc]; exact hsp, ?_⟩
      · simp only [decAttr, parseWire, List.append_assoc, hsp, hcd, c3, toOwned, c4, hnorm, renorm]
      · refine ⟨by simp [hcd, codeOf], ?_⟩
        simp only [hcd]
        obtain ⟨_, _, e3, e4⟩ := extBit_plain a.flags hf
        refine ⟨c1, hcf, ?_⟩
        by_cases hx : w.length > 255
        · simp only [hx, if_true]; exact e4
        · simp only [hx, if_false]; simpa using e3
  · -- invalid
    obtain ⟨cf, hcf, hcfv, hclt⟩ := canonical_of_validate hv
    have hf : cf < 256 := by omega
    obtain ⟨e, hfit, hsp⟩ := rawHeader_rawAttr cf tc v hf hv65
    simp only [hcf, Option.getD_some]
    refine ⟨_, rfl, fun _ => ⟨_, rfl, by simp [lenOwned, rawHeader_length], ?_, fun r' =>
      ⟨?_, _, _, _, hsp r', rfl, rfl, rawFlags_toNat cf v.length hf⟩⟩⟩
    · simp only [List.length_append, rawHeader_length, headerLen]; split <;> omega
    · rw [e]
      simpa [renorm] using (Rc.Thm.C04.invalid_iff true _ tc v r' cf hfit hcf).1.2 hv
  · -- unimplemented
    have hf : fl.toNat < 256 := fl.toNat_lt
    obtain ⟨e, hfit, hsp⟩ := rawHeader_rawAttr fl.toNat tc v hf hv65
    refine ⟨_, rfl, fun _ => ⟨_, rfl, by simp [lenOwned, rawHeader_length], ?_, fun r' =>
      ⟨?_, _, _, _, hsp r', rfl, rfl, rawFlags_toNat fl.toNat v.length hf⟩⟩⟩
    · simp only [List.length_append, rawHeader_length, headerLen]; split <;> omega
    · rw [e]
      simpa [renorm, rawFlags_toNat fl.toNat v.length hf] using
        Rc.Thm.C04.unrecognised_is_unimplemented true _ tc v r' hfit (canonical_none_of_validate hv)

/-! ### re-composed AS paths fit the length field -/

theorem encSegs_len : ∀ (ss : List Seg),
    (encSegs true ss).length = 2 * ss.length + 4 * (ss.flatMap (·.asns)).length
  | [] => rfl
  | s :: r => by
    have ih := encSegs_len r
    simp only [encSegs_cons, List.length_append, ih, encSeg, List.length_cons, encAsnsW_length, asnSize,
      if_true, List.flatMap_cons]
    omega

theorem nonempty_count : ∀ (ss : List Seg), (∀ s ∈ ss, s.asns ≠ []) → ss.length ≤ (ss.flatMap (·.asns)).length
  | [], _ => by simp
  | s :: r, h => by
    have ih := nonempty_count r (fun x hx => h x (by simp [hx]))
    have : 0 < s.asns.length := List.length_pos_iff.mpr (h s (by simp))
    simp only [List.length_cons, List.flatMap_cons, List.length_append]
    omega

theorem runSegs_len (run : List Nat) : (runSegs run).length ≤ run.length := by
  obtain ⟨r1, r2⟩ := runSegs_spec run
  have := nonempty_count (runSegs run) (fun s hs => (r1 s hs).2.2.1)
  rw [r2] at this
  exact this

theorem segsLoop_len (f : Nat) (h : List Hop) : (segsLoop f h).length ≤ h.length := by
  fun_induction segsLoop f h with
  | case1 | case2 => exact Nat.zero_le _
  | case3 f h _ ih =>
    have hlen : h.length = (spanAsns h).1.length + (spanAsns h).2.length := by
      simpa using congrArg List.length (spanAsns_spec h).1
    have hr := runSegs_len (spanAsns h).1
    rw [List.length_append]
    split
    · simp only [List.length_nil]; omega
    · simp only [List.length_nil]; omega
    · next s rest he =>
      have := ih rest
      rw [he] at hlen
      simp only [List.length_cons] at hlen ⊢
      omega

/-- an AS path value read from the wire re-composes into at most one and a half
times its length (merging AS_SEQUENCE segments can only save segment headers;
this bound is crude but enough for the length field) -/
theorem path_recompose_len (v : Bytes) (h : HopPath) (hp : PathView v h) (w : Bytes)
    (hw : pathBytes h = .ok w) : w.length ≤ v.length + v.length / 2 := by
  obtain ⟨ss, hss, rfl, rfl⟩ := hp
  have wf := wfHops_hopsOfSegs true ss hss
  have s1 := (segsLoop_spec true (hopsOfSegs ss).length (hopsOfSegs ss) (Nat.le_refl _) wf)
  have hc : compose true (hopsOfSegs ss) = .ok (encSegs true (segsLoop (hopsOfSegs ss).length (hopsOfSegs ss))) := by
    rw [compose, composeLoop_eq, composeSegs_wide _ (fun s hs => (s1.1 s hs).2.2.1)]
  have : w = encSegs true (segsLoop (hopsOfSegs ss).length (hopsOfSegs ss)) := by
    simp only [pathBytes, hc, Outcome.ok.injEq] at hw; exact hw.symm
  subst this
  have l1 := encSegs_len (segsLoop (hopsOfSegs ss).length (hopsOfSegs ss))
  have l2 := encSegs_len ss
  have l3 := segsLoop_len (hopsOfSegs ss).length (hopsOfSegs ss)
  obtain ⟨l4, l5⟩ := hopsOfSegs_len ss
  rw [s1.2.2, l5] at l1
  omega

end Rc.Reenc
