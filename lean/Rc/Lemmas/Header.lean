/-
Lemmas about the 19-byte BGP header model (`Rc.Open.headerCheck` / `headerParse`).
-/
import Rc.Model.Open

namespace Rc.Open
open Rc

@[simp] theorem marker_length : marker.length = 16 := rfl

theorem header_length (n : Nat) (t : UInt8) : (header n t).length = 19 := by
  simp [header]

theorem headerParse_header (n : Nat) (t : UInt8) (rest : Bytes) (hn : n < 65536) :
    headerParse (header n t ++ rest) = some (n, t, rest) := by
  unfold headerParse
  have e : header n t ++ rest = marker ++ (be16 n ++ (t :: rest)) := by simp [header]
  rw [e, show (16 : Nat) = marker.length from rfl, takeN_append]
  simp only [ne_eq, not_true_eq_false, ite_false]
  rw [rd16_be16 n hn]

theorem headerParse_some {bs r : Bytes} {len : Nat} {t : UInt8} (h : headerParse bs = some (len, t, r)) :
    bs = header len t ++ r ∧ len < 65536 := by
  unfold headerParse at h
  cases h16 : takeN 16 bs with
  | none => simp [h16] at h
  | some p =>
    obtain ⟨m, r1⟩ := p
    rw [h16] at h
    rcases r1 with _ | ⟨a, _ | ⟨b, _ | ⟨t', r3⟩⟩⟩ <;> simp [rd16] at h
    obtain ⟨hm, rfl, rfl, rfl⟩ := h
    have := a.toNat_lt
    have := b.toNat_lt
    refine ⟨?_, by omega⟩
    rw [(takeN_length h16).2, hm, header, be16_eq]
    simp

theorem headerCheck_eq (bs : Bytes) :
    headerCheck bs = (headerParse bs).bind fun x => if x.1 = bs.length then some x.2.2 else none := by
  unfold headerCheck
  fun_cases headerParse bs <;> simp [*]

theorem headerCheck_header (n : Nat) (t : UInt8) (rest : Bytes)
    (h : n = 19 + rest.length) (hn : n < 65536) :
    headerCheck (header n t ++ rest) = some rest := by
  rw [headerCheck_eq, headerParse_header n t rest hn]
  simp [header_length, h]

theorem headerCheck_some {bs r : Bytes} (h : headerCheck bs = some r) :
    ∃ t, bs = header bs.length t ++ r ∧ bs.length < 65536 ∧ bs.length = 19 + r.length := by
  rw [headerCheck_eq] at h
  cases hp : headerParse bs with
  | none => simp [hp] at h
  | some x =>
    obtain ⟨len, t, r'⟩ := x
    simp only [hp, Option.bind_some] at h
    split at h
    · rename_i hl
      cases h
      subst hl
      have ⟨hb, hlt⟩ := headerParse_some hp
      refine ⟨t, hb, hlt, ?_⟩
      have := congrArg List.length hb
      rw [List.length_append, header_length] at this
      exact this
    · cases h

end Rc.Open
