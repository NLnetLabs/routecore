import Rc.Thm.C06
#print axioms Rc.Thm.C06.model_constants_agree
#print axioms Rc.Thm.C06.into_message_bounded
#print axioms Rc.Thm.C06.take_message_step
#print axioms Rc.Thm.C06.terminates
#print axioms Rc.Thm.C06.iter_terminates
#print axioms Rc.Thm.C06.never_panics
#print axioms Rc.Thm.C06.bounded
#print axioms Rc.Thm.C06.conserve_wd
#print axioms Rc.Thm.C06.conserve_ann
#print axioms Rc.Thm.C06.attrs_everywhere
#print axioms Rc.Thm.C06.nonempty
#print axioms Rc.Thm.C06.wire_consistent
#print axioms Rc.Thm.C06.into_message_error_iff
#print axioms Rc.Thm.C06.iter_items_ok
#print axioms Rc.Thm.C06.set_nexthop_refuses_unimplemented
#print axioms Rc.Thm.C06.set_nexthop_ll_spec
#print axioms Rc.Thm.C06.set_nexthop_ll_multicast
#print axioms Rc.Thm.C06.iter_agrees
#print axioms Rc.Thm.C06.error_iff
#print axioms Rc.Thm.C06.invalid_is_error
#print axioms Rc.Thm.C06.take_message_wf
#print axioms Rc.Thm.C06.into_message_wf
#print axioms Rc.Thm.C06.iter_wf
#print axioms Rc.Thm.C06.into_messages_wf
#print axioms Rc.Thm.C06.emitted_pdu_decodes
#print axioms Rc.Thm.C06.emitted_is_reference_encoding
#print axioms Rc.Thm.C06.emitted_pdu_content
#print axioms Rc.Thm.C06.end_to_end_conservation
