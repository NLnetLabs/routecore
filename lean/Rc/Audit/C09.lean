import Rc.Thm.C09
#print axioms Rc.Thm.C09.model_constants_agree
#print axioms Rc.Thm.C09.feedAll_eq_drain_flatten
#print axioms Rc.Thm.C09.chunking_irrelevant
#print axioms Rc.Thm.C09.prompt_delivery
#print axioms Rc.Thm.C09.messages_then_tail
#print axioms Rc.Thm.C09.chunking_invariant
#print axioms Rc.Thm.C09.short_len_is_error
#print axioms Rc.Thm.C09.short_len_ends_session
#print axioms Rc.Thm.C09.bad_marker_is_error
#print axioms Rc.Thm.C09.bad_marker_waits_for_frame
#print axioms Rc.Thm.C09.refused_frame_ends_session
#print axioms Rc.Thm.C09.unknown_type_is_refused
#print axioms Rc.Thm.C09.route_refresh_is_ignored
#print axioms Rc.Thm.C09.bad_marker_ends_session
#print axioms Rc.Thm.C09.parseFrame_ne_panic
#print axioms Rc.Thm.C09.feedAll_ne_panic
#print axioms Rc.Thm.C09.decodeMsg_ne_panic
#print axioms Rc.Thm.C09.read_message_total
#print axioms Rc.Thm.C09.read_message_bad_len
#print axioms Rc.Thm.C09.read_message_frame
#print axioms Rc.Thm.C09.read_messages_stream
#print axioms Rc.Thm.C09.illegal_message_is_fsm_error
#print axioms Rc.Thm.C09.framing_table_is_fsm_arm
#print axioms Rc.Thm.C09.wire_events_never_todo
#print axioms Rc.Thm.C09.arm_msg_ctx
#print axioms Rc.Thm.C09.exec_view
#print axioms Rc.Thm.C09.framing_step_is_fsm_step
#print axioms Rc.Thm.C09.framing_tick_is_fsm_tick
#print axioms Rc.Thm.C09.wire_cannot_panic_session
#print axioms Rc.Thm.C09.sessionRunV_const
#print axioms Rc.Thm.C09.session_run_never_panics
#print axioms Rc.Thm.C09.session_chunking_invariant
#print axioms Rc.Thm.C09.session_chunking_irrelevant
#print axioms Rc.Thm.C09.session_trace_is_fsm_run
#print axioms Rc.Thm.C09.session_end_to_end
#print axioms Rc.Thm.C09.session_end_to_end_const_decoder
#print axioms Rc.Thm.C09.okSteps_sound
#print axioms Rc.Thm.C09.okSteps_prefix_transitions
#print axioms Rc.Thm.C09.run_steps_are_okSteps
#print axioms Rc.Thm.C09.bytes_trace_conforms
#print axioms Rc.Thm.C09.bytes_update_to_app_iff_established
#print axioms Rc.Thm.C09.bytes_no_update_without_update
#print axioms Rc.Thm.C09.bytes_established_only_after_open_keepalive
#print axioms Rc.Thm.C09.session_wire_total
#print axioms Rc.Thm.C09.session_wire_decoder_changes
#print axioms Rc.Thm.C09.session_wire_update_iff
#print axioms Rc.Thm.C09.update_name_injective
#print axioms Rc.Thm.C09.session_wire_input_type
#print axioms Rc.Thm.C09.session_wire_route_refresh
#print axioms Rc.Thm.C09.session_chunking_invariant_concrete
#print axioms Rc.Thm.C09.session_trace_is_fsm_run_concrete
#print axioms Rc.Thm.C09.session_end_to_end_concrete
#print axioms Rc.Thm.C09.bytes_trace_conforms_concrete
#print axioms Rc.Thm.C09.bytes_update_to_app_iff_established_concrete
#print axioms Rc.Thm.C09.bytes_no_update_without_update_concrete
#print axioms Rc.Thm.C09.bytes_established_only_after_open_keepalive_concrete
#print axioms Rc.Thm.C09.session_decoders_total
#print axioms Rc.Thm.C09.frame_decoder_is_message_from_octets
#print axioms Rc.Thm.C09.feedAll_ne_panic_concrete
#print axioms Rc.Thm.C09.wire_cannot_panic_session_concrete
#print axioms Rc.Thm.C09.session_run_never_panics_concrete
#print axioms Rc.Thm.C09.session_run_never_panics_any_config
