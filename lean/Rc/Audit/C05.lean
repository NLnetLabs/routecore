import Rc.Thm.C05
#print axioms Rc.Thm.C05.len_eq
#print axioms Rc.Thm.C05.len_eq_addpath
#print axioms Rc.Thm.C05.roundtrip_exact
#print axioms Rc.Thm.C05.roundtrip_exact_addpath
#print axioms Rc.Thm.C05.list_roundtrip
#print axioms Rc.Thm.C05.list_roundtrip_addpath
#print axioms Rc.Thm.C05.dec_wf
#print axioms Rc.Thm.C05.dec_wf_addpath
#print axioms Rc.Thm.C05.reencode_roundtrip
#print axioms Rc.Thm.C05.reencode_roundtrip_addpath
#print axioms Rc.Thm.C05.compose_total_fails
#print axioms Rc.Thm.C05.compose_total_partial
#print axioms Rc.Thm.C05.wf_bitsFit
#print axioms Rc.Thm.C05.roundtrip_all_fails
#print axioms Rc.Thm.C05.roundtrip_all_fails_flowspec
#print axioms Rc.Thm.C05.roundtrip_all_partial
#print axioms Rc.Thm.C05.wf_evpn_iff
