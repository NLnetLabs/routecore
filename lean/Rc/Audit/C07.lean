import Rc.Thm.C07
#print axioms Rc.Thm.C07.model_constants_agree
#print axioms Rc.Thm.C07.generated_flags_agree
#print axioms Rc.Thm.C07.reencode_attrs_of_fit
#print axioms Rc.Thm.C07.flags_rule
#print axioms Rc.Thm.C07.typed_value_kept
#print axioms Rc.Thm.C07.raw_preserved
#print axioms Rc.Thm.C07.len_eq
#print axioms Rc.Thm.C07.three_routes_agree_of_fit
#print axioms Rc.Thm.C07.reencode_nlri
#print axioms Rc.Thm.C07.paths_fit
#print axioms Rc.Thm.C07.reencode_attrs
#print axioms Rc.Thm.C07.three_routes_agree
#print axioms Rc.Thm.C07.builder_route_succeeds_partial
#print axioms Rc.Thm.C07.builder_route_too_large
#print axioms Rc.Thm.C07.k12_accepted
#print axioms Rc.Thm.C07.builder_route_fails
#print axioms Rc.Thm.C07.reencode_two_octet_partial
#print axioms Rc.Thm.C07.two_octet_fails
#print axioms Rc.Thm.C07.two_octet_widened_path
#print axioms Rc.Thm.C07.two_octet_widened_aggregator
#print axioms Rc.Thm.C07.reencode_whole_message
#print axioms Rc.Thm.C07.readd_preserves_nlri
#print axioms Rc.Thm.C07.readd_prefix_until_error
#print axioms Rc.Thm.C07.readd_total
#print axioms Rc.Thm.C07.readd_drops_mp_ipv4_unicast
#print axioms Rc.Thm.C07.readd_within_limit_fails
#print axioms Rc.Thm.C07.readd_succeeds_partial
#print axioms Rc.Thm.C07.readd_extends_builder
