import Rc.Thm.C13
#print axioms Rc.Thm.C13.compose_valid
#print axioms Rc.Thm.C13.hops_compose
#print axioms Rc.Thm.C13.hops_compose_flat
#print axioms Rc.Thm.C13.flat_normal_form
#print axioms Rc.Thm.C13.hops_compose_exact
#print axioms Rc.Thm.C13.wire_roundtrip
#print axioms Rc.Thm.C13.wire_roundtrip_four
#print axioms Rc.Thm.C13.prepend_n
#print axioms Rc.Thm.C13.pathEq_spec
#print axioms Rc.Thm.C13.eq16_32
#print axioms Rc.Thm.C13.eq_implies_hash_eq
#print axioms Rc.Thm.C13.hopPath_eq_implies_hash_eq
#print axioms Rc.Thm.C13.hopPath_eq_width
#print axioms Rc.Thm.C13.to16_fails_iff
#print axioms Rc.Thm.C13.to16_ok
#print axioms Rc.Thm.C13.hopCountSel_spec
#print axioms Rc.Thm.C13.hopCountSel_wire
#print axioms Rc.Thm.C13.hopCountSel_flat_eq
#print axioms Rc.Thm.C13.compose_long_segment_panics
#print axioms Rc.Thm.C13.compose_total_fails
#print axioms Rc.Thm.C13.compose_total_partial
