import Rc.Thm.C10
#print axioms Rc.Thm.C10.try_new_ok_iff
#print axioms Rc.Thm.C10.try_new_refusal
#print axioms Rc.Thm.C10.cmp_constructed
#print axioms Rc.Thm.C10.cmp_never_panics_on_constructed
#print axioms Rc.Thm.C10.eq_iff_cmp_eq
#print axioms Rc.Thm.C10.skipMed_weak_order
#print axioms Rc.Thm.C10.skipMed_refl
#print axioms Rc.Thm.C10.skipMed_antisymm
#print axioms Rc.Thm.C10.skipMed_trans
#print axioms Rc.Thm.C10.rfc4271_antisymm
#print axioms Rc.Thm.C10.rfc4271_not_transitive
#print axioms Rc.Thm.C10.cmp_is_rfc
#print axioms Rc.Thm.C10.route_of_update_spec
#print axioms Rc.Thm.C10.update_path_reading
#print axioms Rc.Thm.C10.cmp_of_updates_is_rfc
#print axioms Rc.Thm.C10.route_of_pa_map_constructed
#print axioms Rc.Thm.C10.try_new_total
#print axioms Rc.Thm.C10.rfc7606_departures_accepted
