import Rc.Thm.C02
#print axioms Rc.Thm.C02.parse_total
#print axioms Rc.Thm.C02.accessors_total
#print axioms Rc.Thm.C02.iter_bounded_nlri
#print axioms Rc.Thm.C02.iter_bounded_attrs
#print axioms Rc.Thm.C02.fuel_irrelevant
#print axioms Rc.Thm.C02.err_is_last
#print axioms Rc.Thm.C02.errLast_spec
#print axioms Rc.Thm.C02.attrs_no_err
#print axioms Rc.Thm.C02.attrs_all_ok
#print axioms Rc.Thm.C02.vec_agrees_withdrawals
#print axioms Rc.Thm.C02.vec_agrees_announcements
#print axioms Rc.Thm.C02.conv_all_ok
#print axioms Rc.Thm.C02.hops_bounded
#print axioms Rc.Thm.C02.returned_path_bounded
#print axioms Rc.Thm.C02.community_iterator_protocol
#print axioms Rc.Thm.C02.attribute_iterator_protocol
#print axioms Rc.Thm.C02.nlri_iterator_protocol
