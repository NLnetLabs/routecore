import Rc.Thm.C11
#print axioms Rc.Thm.C11.best_none_iff_any
#print axioms Rc.Thm.C11.content_clauses
#print axioms Rc.Thm.C11.backup_none_iff_any
#print axioms Rc.Thm.C11.best_none_iff
#print axioms Rc.Thm.C11.best_backup_spec
#print axioms Rc.Thm.C11.best_is_min
#print axioms Rc.Thm.C11.backup_none_iff
#print axioms Rc.Thm.C11.backup_spec
#print axioms Rc.Thm.C11.best_eq_single_best
#print axioms Rc.Thm.C11.spec_class_perm_invariant
#print axioms Rc.Thm.C11.backup_class_perm_invariant
#print axioms Rc.Thm.C11.bestBackup_eq_run
#print axioms Rc.Thm.C11.position_agrees
#print axioms Rc.Thm.C11.best_backup_spec_on
#print axioms Rc.Thm.C11.generic_two_smallest
#print axioms Rc.Thm.C11.skipMed_best_backup
#print axioms Rc.Thm.C11.skipMed_backup_order_independent
#print axioms Rc.Thm.C11.rfc4271_cycle_no_best
#print axioms Rc.Thm.C11.skipMed_statement
#print axioms Rc.Thm.C11.rfc4271_statement_fails
#print axioms Rc.Thm.C11.rfc4271_unconditional
#print axioms Rc.Thm.C11.rfc4271_best_backup_partial
