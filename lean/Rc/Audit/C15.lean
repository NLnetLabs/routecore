import Rc.Thm.C15
#print axioms Rc.Thm.C15.model_constants_agree
#print axioms Rc.Thm.C15.embedded_decoders_total
#print axioms Rc.Thm.C15.decode_total
#print axioms Rc.Thm.C15.message_check_spec
#print axioms Rc.Thm.C15.message_check_total
#print axioms Rc.Thm.C15.accepted_length
#print axioms Rc.Thm.C15.common_header_total
#print axioms Rc.Thm.C15.per_peer_header_total
#print axioms Rc.Thm.C15.route_monitoring_total
#print axioms Rc.Thm.C15.statistics_total
#print axioms Rc.Thm.C15.initiation_tlvs_total
#print axioms Rc.Thm.C15.termination_info_total
#print axioms Rc.Thm.C15.peer_down_total
#print axioms Rc.Thm.C15.peer_up_total
#print axioms Rc.Thm.C15.capability_rules_agree
#print axioms Rc.Thm.C15.capability_parse_agree
#print axioms Rc.Thm.C15.embedded_open_is_checked
#print axioms Rc.Thm.C15.embedded_open_iff_checked
#print axioms Rc.Thm.C15.peer_up_config_total
#print axioms Rc.Thm.C15.route_monitoring_update_same
#print axioms Rc.Thm.C15.common_header_roundtrip
#print axioms Rc.Thm.C15.per_peer_header_roundtrip
#print axioms Rc.Thm.C15.statistics_roundtrip
#print axioms Rc.Thm.C15.initiation_roundtrip
#print axioms Rc.Thm.C15.termination_roundtrip
#print axioms Rc.Thm.C15.peer_down_roundtrip
#print axioms Rc.Thm.C15.route_monitoring_accepted
#print axioms Rc.Thm.C15.route_mirroring_accepted
#print axioms Rc.Thm.C15.statistics_accepted
#print axioms Rc.Thm.C15.initiation_accepted
#print axioms Rc.Thm.C15.termination_accepted
#print axioms Rc.Thm.C15.peer_down_accepted
#print axioms Rc.Thm.C15.peer_up_accepted_roundtrip
