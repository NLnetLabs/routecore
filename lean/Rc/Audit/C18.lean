import Rc.Thm.C18
#print axioms Rc.Thm.C18.toInt_fromInt
#print axioms Rc.Thm.C18.fromInt_injective
#print axioms Rc.Thm.C18.named_injective
#print axioms Rc.Thm.C18.unknown_preserved
#print axioms Rc.Thm.C18.range_preserved
#print axioms Rc.Thm.C18.fromInt_toInt
#print axioms Rc.Thm.C18.afisafi_roundtrip
#print axioms Rc.Thm.C18.afisafi_injective
#print axioms Rc.Thm.C18.afisafi_bytes
#print axioms Rc.Thm.C18.nlritype_roundtrip
#print axioms Rc.Thm.C18.nlritype_injective
#print axioms Rc.Thm.C18.header_msg_type_agrees
#print axioms Rc.Thm.C18.header_msg_type_default
#print axioms Rc.Thm.C18.apdir_roundtrip
#print axioms Rc.Thm.C18.apdir_back
#print axioms Rc.Thm.C18.segtype_roundtrip
#print axioms Rc.Thm.C18.segtype_back
#print axioms Rc.Thm.C18.generated_tables_wf
#print axioms Rc.Thm.C18.generated_codes_fit
#print axioms Rc.Thm.C18.generated_afisafi_wf
#print axioms Rc.Thm.C18.named_reachable
#print axioms Rc.Thm.C18.range_reachable
#print axioms Rc.Thm.C18.generated_tables_lossless
#print axioms Rc.Thm.C18.generated_afisafi_lossless
#print axioms Rc.Thm.C18.generated_shapes_ok
#print axioms Rc.Thm.C18.details_roundtrip_partial
#print axioms Rc.Thm.C18.dropsSub_iff
#print axioms Rc.Thm.C18.details_roundtrip_fails
