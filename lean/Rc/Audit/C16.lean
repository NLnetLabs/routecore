import Rc.Thm.C16
#print axioms Rc.Thm.C16.peer_index_eq
#print axioms Rc.Thm.C16.rib_entries_eq
#print axioms Rc.Thm.C16.tables_eq
#print axioms Rc.Thm.C16.single_eq
#print axioms Rc.Thm.C16.tables_single_eq
#print axioms Rc.Thm.C16.mt_multiset
#print axioms Rc.Thm.C16.mt_file_order_eq
#print axioms Rc.Thm.C16.rib_entry_attributes_bytes
#print axioms Rc.Thm.C16.attr_block_any_length
#print axioms Rc.Thm.C16.wfEntry_iff
#print axioms Rc.Thm.C16.wholeInside_prefix
#print axioms Rc.Thm.C16.truncation
#print axioms Rc.Thm.C16.truncation_no_panic
#print axioms Rc.Thm.C16.bgp4mp_in_order
#print axioms Rc.Thm.C16.bgp4mp_skip_rule
#print axioms Rc.Thm.C16.messages_fused
#print axioms Rc.Thm.C16.et_length_underflow_panics
#print axioms Rc.Thm.C16.rib_iterator_protocol
#print axioms Rc.Thm.C16.rib_count_after_partial
#print axioms Rc.Thm.C16.tables_iterator_protocol
#print axioms Rc.Thm.C16.single_iterator_protocol
