import Rc.Thm.C01
#print axioms Rc.Thm.C01.decode_encode
#print axioms Rc.Thm.C01.typed_value_roundtrip
#print axioms Rc.Thm.C01.hop_path_is_segments
#print axioms Rc.Thm.C01.unsupported_reach_reported
#print axioms Rc.Thm.C01.unsupported_unreach_reported
#print axioms Rc.Thm.C01.reserved_octet_ignored
#print axioms Rc.Thm.C01.reserved_octet_fields
#print axioms Rc.Thm.C01.sections_decoded
#print axioms Rc.Thm.C01.decode_encode_raw
#print axioms Rc.Thm.C01.typed_value_reported
#print axioms Rc.Thm.C01.getters_reported
#print axioms Rc.Thm.C01.comm_records
#print axioms Rc.Thm.C01.mp_reach_reported
#print axioms Rc.Thm.C01.mp_unreach_reported
#print axioms Rc.Thm.C01.mp_flag_of_unique
#print axioms Rc.Thm.C01.next_hop_reported
#print axioms Rc.Thm.C01.eor_iff
#print axioms Rc.Thm.C01.eor_no_nlri
#print axioms Rc.Thm.C01.eor_no_nlri_items
#print axioms Rc.Thm.C01.eor_marker_recognised
