import Rc.Thm.C20
#print axioms Rc.Thm.C20.timer_refines_spec
#print axioms Rc.Thm.C20.timer_state_refines_spec
#print axioms Rc.Thm.C20.event_interval
#print axioms Rc.Thm.C20.run_is_runT
#print axioms Rc.Thm.C20.no_early_tick
#print axioms Rc.Thm.C20.no_tick_after_stop
#print axioms Rc.Thm.C20.start_rearms
#print axioms Rc.Thm.C20.reset_rearms
#print axioms Rc.Thm.C20.tick_exactly_at_deadline
#print axioms Rc.Thm.C20.kth_tick_at_k_intervals
#print axioms Rc.Thm.C20.silent_until_start
#print axioms Rc.Thm.C20.stop_silences
#print axioms Rc.Thm.C20.stop_twice
#print axioms Rc.Thm.C20.reset_stopped_noop
#print axioms Rc.Thm.C20.interval_zero_never_ticks
#print axioms Rc.Thm.C20.unrepaired_timer_ticks_after_stop
#print axioms Rc.Thm.C20.unrepaired_timer_ticks_early
