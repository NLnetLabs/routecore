import Rc.Thm.C08
#print axioms Rc.Thm.C08.todo_arms
#print axioms Rc.Thm.C08.panic_arms
#print axioms Rc.Thm.C08.handled_runs
#print axioms Rc.Thm.C08.step_notif_conforms
#print axioms Rc.Thm.C08.step_conforms_partial
#print axioms Rc.Thm.C08.step_conforms_fails
#print axioms Rc.Thm.C08.k5_is_the_only_deviation
#print axioms Rc.Thm.C08.handle_msg_raises_rfc_event
#print axioms Rc.Thm.C08.input_conforms_partial
#print axioms Rc.Thm.C08.input_notif_conforms
#print axioms Rc.Thm.C08.allHandled_covers
#print axioms Rc.Thm.C08.runHist_transitions
#print axioms Rc.Thm.C08.trace_conforms_partial
#print axioms Rc.Thm.C08.openConfirm_entered_by_allowed_open
#print axioms Rc.Thm.C08.established_entered_by_keepalive
#print axioms Rc.Thm.C08.GhostInv.of_outside
#print axioms Rc.Thm.C08.ghostInv_step
#print axioms Rc.Thm.C08.established_only_after_open_keepalive
#print axioms Rc.Thm.C08.update_to_app_iff_established
#print axioms Rc.Thm.C08.no_update_without_update
#print axioms Rc.Thm.C08.tick_conforms_fails
#print axioms Rc.Thm.C08.tickStep_frame
#print axioms Rc.Thm.C08.tick_conforms_partial
#print axioms Rc.Thm.C08.cmd_disconnect_with_notifies
#print axioms Rc.Thm.C08.cmd_disconnect_cease
#print axioms Rc.Thm.C08.cmd_disconnect_admin_is_cease
#print axioms Rc.Thm.C08.cmd_disconnect_other_silent
#print axioms Rc.Thm.C08.cmd_disconnect_notif_conforms
#print axioms Rc.Thm.C08.tick_notif_conforms
#print axioms Rc.Thm.C08.accepted_all
#print axioms Rc.Thm.C08.accepted_keeps_app
#print axioms Rc.Thm.C08.notif_queued_fails
#print axioms Rc.Thm.C08.notif_queued_partial
#print axioms Rc.Thm.C08.clockOk_input
#print axioms Rc.Thm.C08.clockOk_ofSt
#print axioms Rc.Thm.C08.clockOk_wait
#print axioms Rc.Thm.C08.clockExact_ofSt
#print axioms Rc.Thm.C08.clockExact_act
#print axioms Rc.Thm.C08.tickTimer_fired
#print axioms Rc.Thm.C08.tickTimer_tie
#print axioms Rc.Thm.C08.tickTimer_idle_iff
#print axioms Rc.Thm.C08.tickTimer_clock
#print axioms Rc.Thm.C08.timer_event_only_if_running
#print axioms Rc.Thm.C08.clockOk_tick
#print axioms Rc.Thm.C08.staleInput_iff
#print axioms Rc.Thm.C08.timer_events_never_reset_hold
#print axioms Rc.Thm.C08.hold_expiry_needs_silence
#print axioms Rc.Thm.C08.hold_expiry_needs_silence_ofSt
#print axioms Rc.Thm.C08.keepalive_timer_sends_keepalive
#print axioms Rc.Thm.C08.clock_start_is_timer_spec
#print axioms Rc.Thm.C08.clock_stop_is_timer_spec
#print axioms Rc.Thm.C08.clock_reset_is_timer_spec
#print axioms Rc.Thm.C08.clock_tick_is_timer_spec
#print axioms Rc.Thm.C08.clock_wait_is_timer_spec
