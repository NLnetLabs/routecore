import Rc.Thm.C03
#print axioms Rc.Thm.C03.model_constants_agree
#print axioms Rc.Thm.C03.keepalive_iff_19
#print axioms Rc.Thm.C03.keepalive_builder_roundtrip
#print axioms Rc.Thm.C03.keepalive_total
#print axioms Rc.Thm.C03.open_length_mismatch_rejected
#print axioms Rc.Thm.C03.keepalive_length_mismatch_rejected
#print axioms Rc.Thm.C03.notif_length_mismatch_rejected
#print axioms Rc.Thm.C03.notif_decode_encode_raw
#print axioms Rc.Thm.C03.notif_decode_statement_fails
#print axioms Rc.Thm.C03.notif_decode_encode_partial
#print axioms Rc.Thm.C03.notif_builder_roundtrip
#print axioms Rc.Thm.C03.notif_builder_total
#print axioms Rc.Thm.C03.notif_total
#print axioms Rc.Thm.C03.rr_decode_encode
#print axioms Rc.Thm.C03.rr_total
#print axioms Rc.Thm.C03.rr_accepted_length
#print axioms Rc.Thm.C03.open_decode_total
#print axioms Rc.Thm.C03.open_accessors_total
#print axioms Rc.Thm.C03.message_total
#print axioms Rc.Thm.C03.open_decode_encode
#print axioms Rc.Thm.C03.addpath_list_reported
#print axioms Rc.Thm.C03.addpath_value_roundtrip
#print axioms Rc.Thm.C03.wfCap_examples
#print axioms Rc.Thm.C03.message_dispatch
#print axioms Rc.Thm.C03.rfcOpen_wf
#print axioms Rc.Thm.C03.open_decode_encode_rfc
#print axioms Rc.Thm.C03.addpath_end_to_end
#print axioms Rc.Thm.C03.allCaps_builderParams
#print axioms Rc.Thm.C03.open_builder_statement_fails
#print axioms Rc.Thm.C03.open_builder_roundtrip_partial
