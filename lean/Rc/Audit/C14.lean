import Rc.Thm.C14
#print axioms Rc.Thm.C14.cmp_eq_iff
#print axioms Rc.Thm.C14.cmp_swap
#print axioms Rc.Thm.C14.cmp_antisymm
#print axioms Rc.Thm.C14.cmp_trans
#print axioms Rc.Thm.C14.cmp_connex
#print axioms Rc.Thm.C14.eq_iff_identical
#print axioms Rc.Thm.C14.eq_hash
#print axioms Rc.Thm.C14.addpath_eq_iff
#print axioms Rc.Thm.C14.addpath_cmp_eq_iff
#print axioms Rc.Thm.C14.addpath_cmp_swap
#print axioms Rc.Thm.C14.addpath_cmp_antisymm
#print axioms Rc.Thm.C14.addpath_cmp_trans
#print axioms Rc.Thm.C14.addpath_cmp_connex
#print axioms Rc.Thm.C14.addpath_eq_hash
#print axioms Rc.Thm.C14.enum_cmp_eq_iff
#print axioms Rc.Thm.C14.enum_cmp_swap
#print axioms Rc.Thm.C14.enum_cmp_antisymm
#print axioms Rc.Thm.C14.enum_cmp_trans
#print axioms Rc.Thm.C14.enum_cmp_connex
#print axioms Rc.Thm.C14.enum_eq_hash
#print axioms Rc.Thm.C14.enum_cross_variant
