import Rc.Thm.C12
#print axioms Rc.Thm.C12.core_rx
#print axioms Rc.Thm.C12.core_swap
#print axioms Rc.Thm.C12.core_tx
#print axioms Rc.Thm.C12.famDirMerge_spec
#print axioms Rc.Thm.C12.rx_iff
#print axioms Rc.Thm.C12.tx_iff
#print axioms Rc.Thm.C12.swap
#print axioms Rc.Thm.C12.first_match_rule
#print axioms Rc.Thm.C12.four_octet_iff
#print axioms Rc.Thm.C12.live_eq_helper
#print axioms Rc.Thm.C12.three_agree
#print axioms Rc.Thm.C12.live_get
#print axioms Rc.Thm.C12.live_rx_iff
#print axioms Rc.Thm.C12.live_tx_iff
#print axioms Rc.Thm.C12.bmp_eq_helper
#print axioms Rc.Thm.C12.pph_fams_eq_helper
#print axioms Rc.Thm.C12.bmp_rx_tx_iff
#print axioms Rc.Thm.C12.bmp_swap
#print axioms Rc.Thm.C12.readable_same
#print axioms Rc.Thm.C12.unreadable_no_addpath
#print axioms Rc.Thm.C12.second_connection_agrees
#print axioms Rc.Thm.C12.sent_open_is_liveLocal
