import Rc.Thm.C19
#print axioms Rc.Thm.C19.raw_id
#print axioms Rc.Thm.C19.raw_flavour
#print axioms Rc.Thm.C19.partition
#print axioms Rc.Thm.C19.asn_tag_decompose
#print axioms Rc.Thm.C19.std_text
#print axioms Rc.Thm.C19.large_text
#print axioms Rc.Thm.C19.ext_text
#print axioms Rc.Thm.C19.ext_text_excluded_as4_small
#print axioms Rc.Thm.C19.ext_text_excluded_opaque_rt
#print axioms Rc.Thm.C19.v6_text
#print axioms Rc.Thm.C19.enum_text_std
#print axioms Rc.Thm.C19.enum_text_large
#print axioms Rc.Thm.C19.enum_text_ext
#print axioms Rc.Thm.C19.enum_text_v6
#print axioms Rc.Thm.C19.wk_names_parse
#print axioms Rc.Thm.C19.wk_parse_case_insensitive
#print axioms Rc.Thm.C19.display_no_panic
#print axioms Rc.Thm.C19.ext_types_spec
#print axioms Rc.Thm.C19.ext_types_two_octets
