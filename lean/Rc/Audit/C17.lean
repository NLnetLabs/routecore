import Rc.Thm.C17
#print axioms Rc.Thm.C17.generated_type_flags_agree
#print axioms Rc.Thm.C17.mkTyped_ok
#print axioms Rc.Thm.C17.spec_ok
#print axioms Rc.Thm.C17.get_set
#print axioms Rc.Thm.C17.get_set_other
#print axioms Rc.Thm.C17.set_returns_previous
#print axioms Rc.Thm.C17.set_returns_replaced
#print axioms Rc.Thm.C17.remove_get
#print axioms Rc.Thm.C17.remove_set
#print axioms Rc.Thm.C17.remove_other
#print axioms Rc.Thm.C17.add_attribute_spec
#print axioms Rc.Thm.C17.set_from_enum_spec
#print axioms Rc.Thm.C17.get_hidden
#print axioms Rc.Thm.C17.merge_upsert_spec
#print axioms Rc.Thm.C17.bytes_len_sum
#print axioms Rc.Thm.C17.compose_length
#print axioms Rc.Thm.C17.bytes_len_composed
#print axioms Rc.Thm.C17.bytes_len_ins
#print axioms Rc.Thm.C17.ownedOf_ok
#print axioms Rc.Thm.C17.inv_empty
#print axioms Rc.Thm.C17.inv_fromUpdate
#print axioms Rc.Thm.C17.inv_run
#print axioms Rc.Thm.C17.sorted_at_most_one
#print axioms Rc.Thm.C17.at_most_one_per_code
#print axioms Rc.Thm.C17.reachable_laws
#print axioms Rc.Thm.C17.non_transitive_stripped_iff
#print axioms Rc.Thm.C17.ownedOf_transitive
#print axioms Rc.Thm.C17.from_update_lookup
#print axioms Rc.Thm.C17.from_update_all_but_mp
#print axioms Rc.Thm.C17.owned_get_agrees
#print axioms Rc.Thm.C17.ownedOf_flags
#print axioms Rc.Thm.C17.workshop_get_after_set
#print axioms Rc.Thm.C17.workshop_get_after_set_other
#print axioms Rc.Thm.C17.workshop_communities_get_after_set
#print axioms Rc.Thm.C17.grouped_filter
#print axioms Rc.Thm.C17.from_update_nexthop
#print axioms Rc.Thm.C17.set_nexthop_spec
#print axioms Rc.Thm.C17.workshop_inv_run
#print axioms Rc.Thm.C17.workshop_communities_reachable
#print axioms Rc.Thm.C17.non_transitive_reachable
#print axioms Rc.Thm.C17.merge_reachable
#print axioms Rc.Thm.C17.remove_reachable
#print axioms Rc.Thm.C17.typedValueW_four
#print axioms Rc.Thm.C17.typedValueW_width_free
#print axioms Rc.Thm.C17.two_octet_aggregator
#print axioms Rc.Thm.C17.aspath_normal_form_fixed
#print axioms Rc.Thm.C17.two_octet_aspath
#print axioms Rc.Thm.C17.parseWire_width
#print axioms Rc.Thm.C17.mp_next_hop_forms
#print axioms Rc.Thm.C17.flowspec_next_hop
