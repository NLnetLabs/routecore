import Rc.Thm.C04
#print axioms Rc.Thm.C04.generated_flags_agree
#print axioms Rc.Thm.C04.generated_flags_rfc
#print axioms Rc.Thm.C04.canonical_flags_rfc
#print axioms Rc.Thm.C04.compose_len_eq
#print axioms Rc.Thm.C04.canonical_header
#print axioms Rc.Thm.C04.ext_iff
#print axioms Rc.Thm.C04.roundtrip_norm
#print axioms Rc.Thm.C04.roundtrip
#print axioms Rc.Thm.C04.roundtrip_eq
#print axioms Rc.Thm.C04.norm_wf
#print axioms Rc.Thm.C04.normal_form
#print axioms Rc.Thm.C04.roundtrip_list
#print axioms Rc.Thm.C04.splitAttr_raw
#print axioms Rc.Thm.C04.validate_is_length_rule
#print axioms Rc.Thm.C04.path_rule
#print axioms Rc.Thm.C04.invalid_iff
#print axioms Rc.Thm.C04.unrecognised_is_unimplemented
#print axioms Rc.Thm.C04.mp_malformed_rejects
#print axioms Rc.Thm.C04.scl_bookkeeping
#print axioms Rc.Thm.C04.scl_wf
#print axioms Rc.Thm.C04.encode_long_segment_panics
#print axioms Rc.Thm.C04.encode_total_fails
#print axioms Rc.Thm.C04.encode_total_partial
