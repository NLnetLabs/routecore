/-
Shared wire-level library: bytes, outcomes (ok / err / panic), big-endian
integers, hex I/O for the line protocol.  Core Lean only (no Mathlib, no Std
imports) so that the driver links as a native executable.
-/

namespace Rc

abbrev Bytes := List UInt8

/-- Result of running a piece of modelled Rust code.  `err` stands for any
`Err(_)` return (ParseError / ComposeError ...), `panic` for any unwinding
(`unwrap` on `None`/`Err`, slice index out of range, arithmetic overflow in the
test profile, `todo!`, `unreachable!`). -/
inductive Outcome (α : Type) where
  | ok (a : α)
  | err
  | panic
  deriving Repr, DecidableEq

namespace Outcome

@[inline] def bind {α β} (x : Outcome α) (f : α → Outcome β) : Outcome β :=
  match x with
  | .ok a => f a
  | .err => .err
  | .panic => .panic

instance : Monad Outcome where
  pure := .ok
  bind := Outcome.bind

@[simp] theorem bind_ok {α β} (a : α) (f : α → Outcome β) : (Outcome.ok a >>= f) = f a := rfl
@[simp] theorem bind_err {α β} (f : α → Outcome β) : ((Outcome.err : Outcome α) >>= f) = .err := rfl
@[simp] theorem bind_panic {α β} (f : α → Outcome β) : ((Outcome.panic : Outcome α) >>= f) = .panic := rfl
@[simp] theorem pure_eq {α} (a : α) : (pure a : Outcome α) = .ok a := rfl

/-- `unwrap` of a Rust `Result`/`Option`: an error becomes a panic. -/
def unwrap {α} : Outcome α → Outcome α
  | .ok a => .ok a
  | _ => .panic

def isOk {α} : Outcome α → Bool
  | .ok _ => true
  | _ => false

def toOption {α} : Outcome α → Option α
  | .ok a => some a
  | _ => none

end Outcome

/-! ### big-endian integers -/

def be16 (n : Nat) : Bytes := [UInt8.ofNat (n / 256), UInt8.ofNat n]
def be32 (n : Nat) : Bytes :=
  [UInt8.ofNat (n / 16777216), UInt8.ofNat (n / 65536), UInt8.ofNat (n / 256), UInt8.ofNat n]

def rd16 : Bytes → Option (Nat × Bytes)
  | a :: b :: r => some (a.toNat * 256 + b.toNat, r)
  | _ => none

def rd32 : Bytes → Option (Nat × Bytes)
  | a :: b :: c :: d :: r =>
      some (a.toNat * 16777216 + b.toNat * 65536 + c.toNat * 256 + d.toNat, r)
  | _ => none

theorem rd16_be16 (n : Nat) (h : n < 65536) (r : Bytes) : rd16 (be16 n ++ r) = some (n, r) := by
  simp [rd16, be16, UInt8.toNat_ofNat']; omega

theorem rd32_be32 (n : Nat) (h : n < 4294967296) (r : Bytes) :
    rd32 (be32 n ++ r) = some (n, r) := by
  simp [rd32, be32, UInt8.toNat_ofNat']; omega

@[simp] theorem be16_length (n : Nat) : (be16 n).length = 2 := rfl
@[simp] theorem be32_length (n : Nat) : (be32 n).length = 4 := rfl

theorem rd16_lt {bs : Bytes} {n r} (h : rd16 bs = some (n, r)) : n < 65536 := by
  match bs, h with
  | a :: b :: _, h =>
    simp [rd16] at h
    have := a.toNat_lt; have := b.toNat_lt; omega

/-- `splitAt` that fails when fewer than `n` bytes remain (`Parser::parse_octets`
/ `advance` / slicing with a checked bound). -/
def takeN (n : Nat) (bs : Bytes) : Option (Bytes × Bytes) :=
  if n ≤ bs.length then some (bs.take n, bs.drop n) else none

theorem takeN_append (a r : Bytes) : takeN a.length (a ++ r) = some (a, r) := by
  simp [takeN]

theorem takeN_length {n : Nat} {bs a r : Bytes} (h : takeN n bs = some (a, r)) :
    a.length = n ∧ bs = a ++ r := by
  unfold takeN at h
  split at h
  · simp at h; obtain ⟨rfl, rfl⟩ := h; simp; omega
  · simp at h

/-- the compiled form of `takeN`: one pass over the `n` octets taken instead of
measuring the whole remaining input on every call (the definition's
`n ≤ bs.length` made every item-by-item decoder of the compiled driver quadratic
in the section length).  Compiler-only replacement, justified by
`takeN_eq_takeNFast`; the logical definition and every proof about it are
untouched. -/
def takeNFast.go : Nat → Bytes → Bytes → Option (Bytes × Bytes)
  | 0, acc, r => some (acc.reverse, r)
  | _ + 1, _, [] => none
  | n + 1, acc, b :: r => go n (b :: acc) r

def takeNFast (n : Nat) (bs : Bytes) : Option (Bytes × Bytes) := takeNFast.go n [] bs

theorem takeNFast.go_eq : ∀ (n : Nat) (acc bs : Bytes),
    takeNFast.go n acc bs = (takeN n bs).map fun p => (acc.reverse ++ p.1, p.2) := by
  intro n
  induction n with
  | zero => intro acc bs; simp [takeNFast.go, takeN]
  | succ n ih =>
    intro acc bs
    cases bs with
    | nil => simp [takeNFast.go, takeN]
    | cons b r =>
      rw [takeNFast.go, ih]
      simp only [takeN, List.length_cons, Nat.add_le_add_iff_right]
      split <;> simp

@[csimp] theorem takeN_eq_takeNFast : @takeN = @takeNFast := by
  funext n bs
  simp [takeNFast, takeNFast.go_eq]
/-! ### hex I/O (driver only; nothing is proved about it) -/

def hexDigit (n : Nat) : Char :=
  if n < 10 then Char.ofNat (48 + n) else Char.ofNat (87 + n)

def hexOfBytes (bs : Bytes) : String :=
  String.ofList (bs.flatMap fun b => [hexDigit (b.toNat / 16), hexDigit (b.toNat % 16)])

def hexVal (c : Char) : Option Nat :=
  if '0' ≤ c ∧ c ≤ '9' then some (c.toNat - 48)
  else if 'a' ≤ c ∧ c ≤ 'f' then some (c.toNat - 87)
  else if 'A' ≤ c ∧ c ≤ 'F' then some (c.toNat - 55)
  else none

def bytesOfHexAux : List Char → Bytes → Option Bytes
  | [], acc => some acc.reverse
  | [_], _ => none
  | a :: b :: r, acc =>
    match hexVal a, hexVal b with
    | some x, some y => bytesOfHexAux r (UInt8.ofNat (x * 16 + y) :: acc)
    | _, _ => none

/-- "-" denotes the empty byte string in the line protocol. -/
def bytesOfHex (s : String) : Option Bytes :=
  if s == "-" then some [] else bytesOfHexAux s.toList []

def hexOrDash (bs : Bytes) : String := if bs.isEmpty then "-" else hexOfBytes bs

/-! ### inversion of `bind`, `takeN` of a known length, `be16` / `be32` against their octets -/

theorem Outcome.bind_eq_ok {α β : Type} {x : Outcome α} {f : α → Outcome β} {b : β} (h : (x >>= f) = .ok b) :
    ∃ a, x = .ok a ∧ f a = .ok b := by
  cases x with
  | ok a => exact ⟨a, rfl, h⟩
  | err => simp at h
  | panic => simp at h

theorem takeN_append_of_length {n : Nat} {a : Bytes} (h : a.length = n) (r : Bytes) :
    takeN n (a ++ r) = some (a, r) :=
  h ▸ takeN_append a r

theorem ofNat_mul256_add (m : Nat) (d : UInt8) : UInt8.ofNat (m * 256 + d.toNat) = d :=
  UInt8.toNat_inj.mp (by
    rw [UInt8.toNat_ofNat', Nat.mul_add_mod_self_right, Nat.mod_eq_of_lt d.toNat_lt])

theorem mul256_add_div (m : Nat) (d : UInt8) : (m * 256 + d.toNat) / 256 = m := by
  have := d.toNat_lt
  omega

theorem be32_eq (a b c d : UInt8) :
    be32 (a.toNat * 16777216 + b.toNat * 65536 + c.toNat * 256 + d.toNat) = [a, b, c, d] := by
  -- in Horner form the octets come off one at a time
  have e : a.toNat * 16777216 + b.toNat * 65536 + c.toNat * 256 + d.toNat =
      ((a.toNat * 256 + b.toNat) * 256 + c.toNat) * 256 + d.toNat := by omega
  rw [be32, e, show 16777216 = 256 * 256 * 256 from rfl, show 65536 = 256 * 256 from rfl,
    ← Nat.div_div_eq_div_mul, ← Nat.div_div_eq_div_mul, mul256_add_div, mul256_add_div,
    mul256_add_div, ofNat_mul256_add, ofNat_mul256_add, ofNat_mul256_add, UInt8.ofNat_toNat]

theorem be16_eq (a b : UInt8) : be16 (a.toNat * 256 + b.toNat) = [a, b] := by
  rw [be16, mul256_add_div, ofNat_mul256_add, UInt8.ofNat_toNat]

theorem rd32_spec {v r : Bytes} {n : Nat} (h : rd32 v = some (n, r)) :
    n < 4294967296 ∧ v = be32 n ++ r := by
  match v, h with
  | a :: b :: c :: d :: r0, h =>
    simp only [rd32, Option.some.injEq, Prod.mk.injEq] at h
    obtain ⟨rfl, rfl⟩ := h
    have := a.toNat_lt; have := b.toNat_lt; have := c.toNat_lt; have := d.toNat_lt
    exact ⟨by omega, by rw [be32_eq]; rfl⟩

theorem rd32_some {v : Bytes} (h : 4 ≤ v.length) : ∃ n r, rd32 v = some (n, r) := by
  match v, h with
  | a :: b :: c :: d :: r0, _ => exact ⟨_, _, rfl⟩

theorem rd32_exact {v : Bytes} (hl : v.length = 4) : ∃ n, n < 4294967296 ∧ rd32 v = some (n, []) ∧ v = be32 n := by
  obtain ⟨n, r, hr⟩ := rd32_some (Nat.le_of_eq hl.symm)
  obtain ⟨hn, hv⟩ := rd32_spec hr
  have hr0 : r = [] := by
    have := congrArg List.length hv
    simp only [List.length_append, be32, List.length_cons, List.length_nil] at this
    exact List.eq_nil_of_length_eq_zero (by omega)
  subst hr0
  exact ⟨n, hn, hr, by simpa using hv⟩

theorem be16_value {n : Nat} (h : n < 65536) : (UInt8.ofNat (n / 256)).toNat * 256 + (UInt8.ofNat n).toNat = n := by
  simpa only [be16, List.cons_append, List.nil_append, rd16, Option.some.injEq, Prod.mk.injEq, and_true]
    using rd16_be16 n h []
theorem be32_value {n : Nat} (h : n < 4294967296) :
    (UInt8.ofNat (n / 16777216)).toNat * 16777216 + (UInt8.ofNat (n / 65536)).toNat * 65536 +
      (UInt8.ofNat (n / 256)).toNat * 256 + (UInt8.ofNat n).toNat = n := by
  simpa only [be32, List.cons_append, List.nil_append, rd32, Option.some.injEq, Prod.mk.injEq, and_true]
    using rd32_be32 n h []

end Rc
