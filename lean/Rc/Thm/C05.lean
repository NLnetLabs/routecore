/-
C05 – Every NLRI family round-trips and reports its exact encoded length.

Property theorems only; the lemmas are in `Rc/Lemmas/Nlri.lean`, the model in
`Rc/Model/{Prefix,Nlri}.lean`.  `codec f` is the plain NLRI type of family
`f` (13 families, `Fam`), `codecAp f` its ADD-PATH variant; together the 26
variants.  `wf` is the explicit well-formedness predicate of each family,
`inv` the invariant of the Rust type itself.
-/
import Rc.Lemmas.Nlri

namespace Rc.Thm.C05
open Rc Rc.Nlri

/-! ### clause: the length reported before encoding equals the number of bytes produced -/

/-- `compose_len()` equals the number of octets `compose` writes – for every
value of the Rust type, also those that cannot be decoded again. -/
theorem len_eq (f : Fam) (n : f.Val) (bs : Bytes)
    (hi : (codec f).inv n = true) (he : (codec f).enc n = .ok bs) :
    bs.length = (codec f).clen n :=
  (codec_laws f).len_eq n bs hi he

theorem len_eq_addpath (f : Fam) (n : Nat × f.Val) (bs : Bytes)
    (hi : (codecAp f).inv n = true) (he : (codecAp f).enc n = .ok bs) :
    bs.length = (codecAp f).clen n :=
  (codecAp_laws f).len_eq n bs hi he

/-! ### clause: encoding then decoding yields an equal value and consumes exactly the encoded bytes -/

/-- A well-formed value is composed without panic, and decoding the composed
octets followed by *any* further octets `r` returns the value and leaves
exactly `r`. -/
theorem roundtrip_exact (f : Fam) (n : f.Val) (r : Bytes) (hw : (codec f).wf n = true) :
    ∃ bs, (codec f).enc n = .ok bs ∧ (codec f).dec (bs ++ r) = .ok (n, r) := by
  obtain ⟨bs, he, _⟩ := (codec_laws f).enc_ok n hw
  exact ⟨bs, he, (codec_laws f).roundtrip n bs r hw he⟩

theorem roundtrip_exact_addpath (f : Fam) (n : Nat × f.Val) (r : Bytes)
    (hw : (codecAp f).wf n = true) :
    ∃ bs, (codecAp f).enc n = .ok bs ∧ (codecAp f).dec (bs ++ r) = .ok (n, r) := by
  obtain ⟨bs, he, _⟩ := (codecAp_laws f).enc_ok n hw
  exact ⟨bs, he, (codecAp_laws f).roundtrip n bs r hw he⟩

/-! ### clause: a concatenation of encoded NLRI decodes to exactly the original sequence, in order -/

/-- `NlriIter` over the concatenation of any number of composed well-formed
NLRI yields exactly the original sequence and stops at the end of the input. -/
theorem list_roundtrip (f : Fam) (ns : List f.Val) (hw : ∀ n ∈ ns, (codec f).wf n = true) :
    ∃ bs, encAll (codec f) ns = .ok bs ∧ decAll (codec f) bs = .ok (ns, true) :=
  (codec_laws f).list_roundtrip ns hw

theorem list_roundtrip_addpath (f : Fam) (ns : List (Nat × f.Val))
    (hw : ∀ n ∈ ns, (codecAp f).wf n = true) :
    ∃ bs, encAll (codecAp f) ns = .ok bs ∧ decAll (codecAp f) bs = .ok (ns, true) :=
  (codecAp_laws f).list_roundtrip ns hw

/-! ### the well-formedness predicates cover everything the parsers return -/

/-- Every value a parser returns is well-formed: `wf` excludes nothing that can
be received.  (For IPv4 FlowSpec this holds after the repair F28.) -/
theorem dec_wf (f : Fam) (bs : Bytes) (n : f.Val) (r : Bytes) (h : (codec f).dec bs = .ok (n, r)) :
    (codec f).wf n = true := codec_dec_wf f bs n r h

theorem dec_wf_addpath (f : Fam) (bs : Bytes) (n : Nat × f.Val) (r : Bytes)
    (h : (codecAp f).dec bs = .ok (n, r)) : (codecAp f).wf n = true := codecAp_dec_wf f bs n r h

/-- parse, compose, parse: a received NLRI is composed without panic and the
composed octets (followed by anything) decode to the same value. -/
theorem reencode_roundtrip (f : Fam) (bs r r' : Bytes) (n : f.Val) (h : (codec f).dec bs = .ok (n, r)) :
    ∃ e, (codec f).enc n = .ok e ∧ e.length = (codec f).clen n ∧ (codec f).dec (e ++ r') = .ok (n, r') := by
  have hw := dec_wf f bs n r h
  obtain ⟨e, he, hd⟩ := roundtrip_exact f n r' hw
  exact ⟨e, he, len_eq f n e ((codec_laws f).wf_inv n hw) he, hd⟩

theorem reencode_roundtrip_addpath (f : Fam) (bs r r' : Bytes) (n : Nat × f.Val)
    (h : (codecAp f).dec bs = .ok (n, r)) :
    ∃ e, (codecAp f).enc n = .ok e ∧ e.length = (codecAp f).clen n ∧ (codecAp f).dec (e ++ r') = .ok (n, r') := by
  have hw := dec_wf_addpath f bs n r h
  obtain ⟨e, he, hd⟩ := roundtrip_exact_addpath f n r' hw
  exact ⟨e, he, len_eq_addpath f n e ((codecAp_laws f).wf_inv n hw) he, hd⟩

/-! ### the well-formedness predicates are satisfiable by non-trivial values -/

private def p4 : Pfx := ⟨false, 23, [10, 1, 2, 0]⟩
private def p6 : Pfx := ⟨true, 33, [0x20, 0x01, 0x0d, 0xb8, 0x80, 0, 0, 0, 0, 0, 0, 0, 0, 0, 0, 0]⟩
private def rd8 : Bytes := [0, 1, 10, 0, 0, 1, 0, 7]

example : (codec .v4u).wf p4 = true := by decide
example : (codec .v6m).wf p6 = true := by decide
example : (codecAp .v6u).wf (4294967295, p6) = true := by decide
example : (codec .v4mpls).wf ⟨p4, [0x01, 0x3a, 0x70, 0x01, 0x3a, 0x81]⟩ = true := by decide
example : (codec .v6mpls).wf ⟨p6, [0x80, 0, 0]⟩ = true := by decide
example : (codec .v4vpn).wf ⟨p4, [0, 0x7d, 0xc1], rd8⟩ = true := by decide
example : (codecAp .v6vpn).wf (7, ⟨p6, [0, 0, 0], rd8⟩) = true := by decide
example : (codec .v4rt).wf ⟨[0, 0, 0, 100, 0, 2, 0, 100, 0, 0, 0, 1]⟩ = true := by decide
example : (codec .v4fs).wf ⟨1, [1, 24, 10, 0, 0, 3, 0x81, 6, 5, 0x11, 0x1f, 0x90, 0x91, 0x1f, 0x9a]⟩ = true := by decide
example : (codec .v6fs).wf ⟨2, [1, 2, 3]⟩ = true := by decide
example : (codec .vpls).wf ⟨rd8, 1, 2, 65535, 0x010203⟩ = true := by decide
example : (codecAp .evpn).wf (1, ⟨2, [9, 9, 9]⟩) = true := by decide

/-! ### K3: values of more than 255 bits (MPLS, MPLS-VPN) -/

/-- the label (and RD) bits plus the prefix length fit the single length octet -/
def bitsFit : (f : Fam) → f.Val → Bool
  | .v4mpls, m | .v6mpls, m => decide (u8OrMax (8 * m.labels.length) + m.pfx.len ≤ 255)
  | .v4vpn, m | .v6vpn, m => decide (u8OrMax (8 * (8 + m.labels.length)) + m.pfx.len ≤ 255)
  | _, _ => true

/-- Full statement of "compose never panics" – false of the code (K3). -/
def ComposeTotalStatement : Prop :=
  ∀ (f : Fam) (n : f.Val), (codec f).inv n = true → (codec f).enc n ≠ .panic

private def k3Witness : Mpls :=
  ⟨⟨true, 128, [0x20, 0x01, 0x0d, 0xb8, 0, 0, 0, 0, 0, 0, 0, 0, 0, 0, 0, 1]⟩,
   [0, 0, 16, 0, 0, 16, 0, 0, 16, 0, 0, 16, 0, 0, 16, 0, 0, 17]⟩

/-- K3 witness: a valid IPv6 /128 with six labels (272 bits) makes
`MplsNlri::compose` overflow its `u8` sum. -/
theorem compose_total_fails : ¬ ComposeTotalStatement := by
  intro h
  exact h .v6mpls k3Witness (by decide) (by decide)

/-- `compose` panics exactly on the values whose bit count does not fit the
length octet; on every other value of every family it returns. -/
theorem compose_total_partial (f : Fam) (n : f.Val) :
    (codec f).enc n = .panic ↔ bitsFit f n = false := by
  cases f
  case v4mpls | v6mpls => exact (encMpls_panic n).trans (by simp [bitsFit])
  case v4vpn | v6vpn => exact (encVpn_panic n).trans (by simp [bitsFit])
  -- every other composer returns `.ok` by definition, and `bitsFit` is `true`
  all_goals exact ⟨nofun, nofun⟩

/-- a well-formed value is never one of them -/
theorem wf_bitsFit (f : Fam) (n : f.Val) (hw : (codec f).wf n = true) : bitsFit f n = true := by
  obtain ⟨bs, he, _⟩ := (codec_laws f).enc_ok n hw
  cases hb : bitsFit f n
  · rw [(compose_total_partial f n).mpr hb] at he; cases he
  · rfl

/-! ### K10: values holding a field the wire image does not carry as given -/

/-- which model values stand for a value of the Rust type at all: the type's own invariant
(`inv`), an EVPN route type that is a value of `EvpnRouteType` (the non-normalised
`Unimplemented(1..=5)` = 257..=261 included), a FlowSpec `afi` that is a u16 -/
def typeValid : (f : Fam) → f.Val → Bool
  | .evpn, n => rtypeValid n.rtype
  | .v4fs, n | .v6fs, n => decide (n.afi < 65536)
  | f, n => (codec f).inv n

/-- Full statement of "for every NLRI value, encoding then decoding yields an equal value and
consumes exactly the encoded bytes" over every value of the Rust types – false of the code (K10;
also false through K3, where `enc` panics, but the witnesses below do not rely on that). -/
def RoundTripAllStatement : Prop :=
  ∀ (f : Fam) (n : f.Val), typeValid f n = true →
    ∀ bs, (codec f).enc n = .ok bs → (codec f).dec bs = .ok (n, [])

/-- K10 witness 1: `EvpnNlri { route_type: Unimplemented(2), raw: [] }` (serde-built) composes to
`02 00`, which decodes to `MacIpAdvertisement` – a different, `!=` value. -/
theorem roundtrip_all_fails : ¬ RoundTripAllStatement := by
  intro h
  have := h .evpn ⟨258, []⟩ (by decide) [2, 0] (by decide)
  revert this; decide

/-- K10 witness 2: an `Ipv4FlowSpecNlri` holding `afi = Ipv6` composes to octets that decode to
the one holding `afi = Ipv4`. -/
theorem roundtrip_all_fails_flowspec :
    (codec .v4fs).enc ⟨2, [3, 0x81, 6]⟩ = .ok [3, 3, 0x81, 6] ∧
    (codec .v4fs).dec [3, 3, 0x81, 6] = .ok (⟨1, [3, 0x81, 6]⟩, []) := by decide

/-- The provable part: on the well-formed values (`wf`: exactly what the parsers return plus what
serde builds inside the same space – in particular a normalised route type and the family's
afi) the statement holds. -/
theorem roundtrip_all_partial (f : Fam) (n : f.Val) (hw : (codec f).wf n = true) :
    ∀ bs, (codec f).enc n = .ok bs → (codec f).dec bs = .ok (n, []) := by
  obtain ⟨bs', he, hd⟩ := roundtrip_exact f n [] hw
  intro bs h
  rw [he] at h; cases h
  simpa using hd

/-- what `wf` excludes beyond the type's own validity is, for EVPN and FlowSpec, exactly K10
(and the body lengths the length fields cannot carry) -/
theorem wf_evpn_iff (n : Evpn) :
    (codec .evpn).wf n = true ↔ (n.rtype < 256 ∧ n.raw.length ≤ 255) := by
  simp [codec, evpnCodec]

end Rc.Thm.C05
