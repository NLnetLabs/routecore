/-
C06 – UpdateBuilder emits well-formed, size-bounded PDUs that conserve its input.

Property theorems only, about the model in Rc/Model/Builder.lean (the code after
the `fix:` commits on update_builder.rs).  All statements hold for every builder content:
any NLRI type `N` with any size function `sz`, any attribute list, any next
hop, any number of withdrawals and announcements.  Helper lemmas are private or
live in Rc/Lemmas/Builder.lean.

The last section ("the octets on the wire") instantiates `N` with the 26 NLRI
types of afisafi.rs (the codecs of property C05) and the attribute map with a
TLV sequence, and states the wire clauses of the property about the decoder
model of C01 / C02 (`Rc.Upd.parseUpdate`): `emitted_is_reference_encoding`,
`emitted_pdu_decodes`, `emitted_pdu_content`, `end_to_end_conservation`
(lemmas: Rc/Lemmas/BuilderWire.lean).
-/
import Rc.Lemmas.Builder
import Rc.Gen.Constants
import Rc.Lemmas.BuilderWire

namespace Rc.Thm.C06
open Rc Rc.Builder

/-- **model_constants_agree**: the two size constants of the model are the literals of
update_builder.rs as the source has them now (`Rc/Gen/Constants.lean`, regenerated by the pre step
`tools/gen_codepoints.py --constants`): `const MAX_PDU` and the batch threshold
`if compose_len > 4000` of `take_message` -/
theorem model_constants_agree : MAX_PDU = Rc.Gen.maxPdu ∧ BATCH = Rc.Gen.batchThreshold := by
  decide

variable {N : Type} (sz : N → Nat)

/-- A produced message is size-bounded and its two length fields are the number
of bytes actually written (header + empty withdrawn section + attributes). -/
def MsgOk (m : Msg N) : Prop :=
  m.lenField ≤ MAX_PDU ∧ m.lenField = m.actualLen sz ∧ m.attrLenField = m.actualAttrLen sz

/-- **into_message_bounded** – a single `into_message` either reports an error
or returns one bounded, consistent message holding the whole input. -/
theorem into_message_bounded {b : B N} {m : Msg N} (h : intoMessage sz b = .ok m) :
    m.lenField ≤ 4096 ∧ m.lenField = m.actualLen sz ∧ m.attrLenField = m.actualAttrLen sz ∧
    m.wdList = b.wdList ∧ m.annList = b.annList ∧ m.attrs = b.attrs ∧
    nhOfAnn m.ann = nhOfAnn b.ann := by
  obtain ⟨_, hle, rfl⟩ := intoMessage_ok sz h
  refine ⟨hle, ?_, ?_, rfl, rfl, rfl, rfl⟩
  · unfold Msg.actualLen calcPduLen
    rw [actualAttrLen_eq]
    dsimp only
    omega
  · rw [actualAttrLen_eq]
    dsimp only
    omega

/-- A message a step returns is `into_message` of a batch of the builder; as a
builder again (its three parts) it is that batch. -/
private theorem takeMessage_ok {b : B N} {m : Msg N} {rem : Option (B N)}
    (h : takeMessage sz b = (.ok m, rem)) :
    MsgOk sz m ∧ intoMessage sz ⟨m.wd, m.ann, m.attrs⟩ = .ok m ∧ Batch b ⟨m.wd, m.ann, m.attrs⟩ rem := by
  rcases takeMessage_spec sz b with ⟨bb, rem', ht, hb, _⟩ | ht <;> rw [ht] at h
  · injection h with h1 h2
    subst h2
    obtain ⟨a1, a2, a3, _⟩ := into_message_bounded sz h1
    obtain ⟨_, _, rfl⟩ := intoMessage_ok sz h1
    exact ⟨⟨a1, a2, a3⟩, h1, hb⟩
  · cases h

/-- **take_message** – one step hands out a prefix of the withdrawals and of the
announcements, keeps the rest (attributes and next hop unchanged, strictly fewer
NLRI) and returns no remainder exactly when nothing is left. -/
theorem take_message_step {b : B N} {m : Msg N} {rem : Option (B N)}
    (h : takeMessage sz b = (.ok m, rem)) :
    m.lenField ≤ 4096 ∧ m.lenField = m.actualLen sz ∧ m.attrLenField = m.actualAttrLen sz ∧
    m.wdList ++ remWd rem = b.wdList ∧ m.annList ++ remAnn rem = b.annList ∧
    (∀ b', rem = some b' → b'.attrs = b.attrs ∧ nhOfAnn b'.ann = nhOfAnn b.ann ∧
      nlriCount b' < nlriCount b ∧ 1 ≤ nlriCount b') := by
  obtain ⟨⟨a1, a2, a3⟩, _, hb⟩ := takeMessage_ok sz h
  exact ⟨a1, a2, a3, hb.wd, hb.ann, hb.rem⟩

private theorem takeMessage_rem {b b' : B N} (h : (takeMessage sz b).2 = some b') :
    nlriCount b' < nlriCount b ∧ b'.attrs = b.attrs ∧
    (∀ x ∈ b'.wdList, x ∈ b.wdList) ∧ ∀ x ∈ b'.annList, x ∈ b.annList := by
  rcases takeMessage_spec sz b with ⟨bb, rem, ht, hb, _⟩ | ht <;> rw [ht] at h
  · subst h
    obtain ⟨h1, _, h3, _⟩ := hb.rem b' rfl
    exact ⟨h3, h1, fun x hx => hb.wd ▸ List.mem_append_right _ hx,
      fun x hx => hb.ann ▸ List.mem_append_right _ hx⟩
  · cases h

/-- Induction over a successful run of `into_messages`: its last step returns a
message and no remainder, every earlier one a message and the builder the rest of
the run starts from. -/
private theorem run_induct {P : Nat → B N → List (Msg N) → Prop}
    (last : ∀ f b m, takeMessage sz b = (.ok m, none) → P (f + 1) b [m])
    (more : ∀ f b m b' ms, takeMessage sz b = (.ok m, some b') → P f b' ms → P (f + 1) b (m :: ms)) :
    ∀ f b ms, intoMessages sz f b = .ok ms → P f b ms := by
  intro f b ms h
  fun_induction intoMessages sz f b generalizing ms
  case case2 ht => cases h; exact last _ _ _ ht
  case case3 ht _ hr ih => cases h; exact more _ _ _ _ _ ht (ih _ hr)
  all_goals cases h

private theorem run_spec : ∀ (f : Nat) (b : B N) (ms : List (Msg N)),
    intoMessages sz f b = .ok ms →
    (∀ m ∈ ms, MsgOk sz m) ∧
    ms.flatMap Msg.wdList = b.wdList ∧
    ms.flatMap Msg.annList = b.annList ∧
    (∀ m ∈ ms, m.annList ≠ [] → m.attrs = b.attrs ∧ nhOfAnn m.ann = nhOfAnn b.ann) ∧
    (1 ≤ nlriCount b → ∀ m ∈ ms, 1 ≤ m.wdList.length + m.annList.length) ∧
    ms ≠ [] := by
  refine run_induct sz ?_ ?_
  · intro _ b m ht
    obtain ⟨hok, _, hb⟩ := takeMessage_ok sz ht
    have hne := hb.nonempty
    rw [nlriCount_eq ⟨m.wd, m.ann, m.attrs⟩] at hne
    refine ⟨List.forall_mem_singleton.2 hok, ?_, ?_, List.forall_mem_singleton.2 hb.attrs,
      fun h1 => List.forall_mem_singleton.2 (hne h1), List.cons_ne_nil _ _⟩
    · rw [List.flatMap_singleton]; exact (List.append_nil _).symm.trans hb.wd
    · rw [List.flatMap_singleton]; exact (List.append_nil _).symm.trans hb.ann
  · intro _ b m b' ms ht ⟨i1, i2, i3, i4, i5, _⟩
    obtain ⟨hok, _, hb⟩ := takeMessage_ok sz ht
    obtain ⟨r1, r2, _, r4⟩ := hb.rem b' rfl
    have hne := hb.nonempty
    rw [nlriCount_eq ⟨m.wd, m.ann, m.attrs⟩] at hne
    refine ⟨List.forall_mem_cons.2 ⟨hok, i1⟩, ?_, ?_,
      List.forall_mem_cons.2 ⟨hb.attrs, fun m' hm' h1 => r1 ▸ r2 ▸ i4 m' hm' h1⟩,
      fun h1 => List.forall_mem_cons.2 ⟨hne h1, i5 r4⟩, List.cons_ne_nil _ _⟩
    · rw [List.flatMap_cons, i2]; exact hb.wd
    · rw [List.flatMap_cons, i3]; exact hb.ann

private theorem fuel_suffices (f : Nat) (b : B N) (hf : nlriCount b + 1 ≤ f)
    (h : intoMessages sz f b = .outOfFuel) : False := by
  fun_induction intoMessages sz f b
  case case1 => omega
  case case6 b' ht _ ih =>
    have := (takeMessage_rem sz (b' := b') (by rw [ht])).1
    exact ih (by omega) ‹_›
  all_goals cases h

/-- **terminates** – `into_messages` ends: with fuel `|wd| + |ann| + 2` the loop
never runs out (each `take_message` that leaves a remainder strictly decreases
the number of NLRI held). -/
theorem terminates (b : B N) : intoMessages sz (nlriCount b + 2) b ≠ .outOfFuel :=
  fun h => fuel_suffices sz _ b (by omega) h

private theorem iter_fuel (f : Nat) (ob : Option (B N)) (hf : ∀ b, ob = some b → nlriCount b + 1 ≤ f) :
    pduIter sz f ob ≠ none := by
  intro h
  fun_induction pduIter sz f ob
  case case2 => have := hf _ rfl; omega
  case case4 b hn ih =>
    refine ih (fun b' hb' => ?_) hn
    have := hf b rfl
    have := (takeMessage_rem sz hb').1
    omega
  all_goals cases h

/-- **terminates** (iterator) – `PduIterator` yields `None` after at most
`|wd| + |ann| + 2` calls of `next`, whatever errors it reports on the way. -/
theorem iter_terminates (b : B N) : pduIter sz (nlriCount b + 2) (some b) ≠ none :=
  iter_fuel sz _ _ fun _ h => by cases h; omega

private theorem takeMessage_ne_panic (b : B N) : ∀ (_ : (takeMessage sz b).1 = .panic), False := by
  intro h
  rcases takeMessage_spec sz b with ⟨bb, rem, ht, _⟩ | ht <;> rw [ht] at h
  · exact intoMessage_ne_panic sz bb h
  · cases h

/-- The `u16::try_from(..).unwrap()`s of `finish` are guarded by the size check
of `into_message`: no input makes the splitter panic. -/
theorem never_panics : ∀ (f : Nat) (b : B N), intoMessages sz f b ≠ .panic := by
  intro f b h
  fun_induction intoMessages sz f b
  case case5 hp ih => exact ih hp
  case case8 ht => exact takeMessage_ne_panic sz _ (by rw [ht])
  all_goals cases h

/-- **bounded** – every produced message is at most 4096 bytes, its header
length field equals the bytes written, and so does its attribute length field. -/
theorem bounded {f : Nat} {b : B N} {ms : List (Msg N)} (h : intoMessages sz f b = .ok ms) :
    ∀ m ∈ ms, m.lenField ≤ 4096 ∧ m.lenField = m.actualLen sz ∧
      m.attrLenField = m.actualAttrLen sz :=
  (run_spec sz f b ms h).1

/-- **conserve_wd** – the withdrawn NLRI of the produced messages, concatenated,
are exactly the builder's withdrawals: each once, in order. -/
theorem conserve_wd {f : Nat} {b : B N} {ms : List (Msg N)} (h : intoMessages sz f b = .ok ms) :
    ms.flatMap Msg.wdList = b.wdList :=
  (run_spec sz f b ms h).2.1

/-- **conserve_ann** – likewise for the announced NLRI. -/
theorem conserve_ann {f : Nat} {b : B N} {ms : List (Msg N)} (h : intoMessages sz f b = .ok ms) :
    ms.flatMap Msg.annList = b.annList :=
  (run_spec sz f b ms h).2.2.1

/-- **attrs_everywhere** – a message that announces anything carries the full
attribute set and the builder's next hop. -/
theorem attrs_everywhere {f : Nat} {b : B N} {ms : List (Msg N)}
    (h : intoMessages sz f b = .ok ms) :
    ∀ m ∈ ms, m.annList ≠ [] → m.attrs = b.attrs ∧ nhOfAnn m.ann = nhOfAnn b.ann :=
  (run_spec sz f b ms h).2.2.2.1

/-- **nonempty** – if the builder holds any NLRI, no produced message is empty;
and there is always at least one message (the only possibly empty one is the
single message of an input without NLRI). -/
theorem nonempty {f : Nat} {b : B N} {ms : List (Msg N)} (h : intoMessages sz f b = .ok ms) :
    ms ≠ [] ∧ (1 ≤ nlriCount b → ∀ m ∈ ms, 1 ≤ m.wdList.length + m.annList.length) :=
  ⟨(run_spec sz f b ms h).2.2.2.2.2, (run_spec sz f b ms h).2.2.2.2.1⟩

/-- the abstract parts are written with the lengths the length calculation uses
(for NLRI that is property C05, for the next hop `NextHop::compose`) -/
def WireOk (W : Wire N) : Prop :=
  (∀ n, (W.enc n).length = sz n) ∧ (∀ nh, (W.encNh nh).length = nh.composeLen) ∧
  W.afisafi.length = 3

/-- `WireOk` is satisfiable (sizes as NLRI, zero bytes as content) -/
example : WireOk (N := Nat) id
    { enc := fun n => List.replicate n 0, encNh := fun nh => List.replicate nh.composeLen 0,
      afisafi := [0, 1, 1] } :=
  ⟨by intro n; simp, by intro nh; simp, rfl⟩

/-- **bounded**, on the wire – for every message `into_messages` produces, the
byte string `finish` writes is exactly as long as its header length field says
(at most 4096), the length field read back from offset 16 is that number, and the
attribute section is exactly as long as the attribute length field says: the
message ends with its attributes, nothing is cut off and nothing trails. -/
theorem wire_consistent (W : Wire N) (hW : WireOk sz W) {f : Nat} {b : B N} {ms : List (Msg N)}
    (h : intoMessages sz f b = .ok ms) :
    ∀ m ∈ ms, ∀ others : Bytes, others.length = attrsLen m.attrs →
      (wireImage sz W others m).length = m.lenField ∧ m.lenField ≤ 4096 ∧
      (rd16 ((wireImage sz W others m).drop 16)).map (·.1) = some (wireImage sz W others m).length ∧
      (attrSection sz W others m).length = m.attrLenField := by
  intro m hm others ho
  obtain ⟨h1, h2, h3⟩ := hW
  obtain ⟨hle, hlen, hal⟩ := bounded sz h m hm
  have hnl := fun l => sumSz_flatMap sz W.enc l fun x _ => h1 x
  have hsec : (attrSection sz W others m).length = m.actualAttrLen sz := by
    refine attrSection_length sz W others m (fun l nh _ => ?_) (fun l _ => ?_) ho
    · simp only [reachValue, reachValueLen, List.length_append, h2, h3, hnl,
        List.length_cons, List.length_nil]
      omega
    · simp only [unreachValue, unreachValueLen, List.length_append, h3, hnl]
  have hlen' : (wireImage sz W others m).length = m.lenField := by
    rw [hlen]
    unfold wireImage Msg.actualLen
    simp only [List.length_append, List.length_replicate, be16_length, List.length_cons,
      List.length_nil, hsec]
  refine ⟨hlen', hle, ?_, by rw [hsec, hal]⟩
  rw [hlen']
  unfold wireImage
  simp only [List.append_assoc]
  rw [List.drop_left' (by simp)]
  rw [rd16_be16 _ (by omega)]
  rfl

/-- `into_message` reports an error exactly when the content is not a valid
combination or does not fit in one PDU; it never panics. -/
theorem into_message_error_iff (b : B N) :
    (∃ e, intoMessage sz b = .err e) ↔ (isValid b ≠ none ∨ calcPduLen sz b > 4096) :=
  intoMessage_err_iff sz b

/-- Every `Ok` item of the iterator satisfies `Q`, if the message of every step
from a builder satisfying `I` does and `I` passes to the remainder of a step
(whatever the step returns: the iterator goes on after an error). -/
private theorem iter_induct {I : B N → Prop} {Q : Msg N → Prop}
    (hQ : ∀ b m rem, I b → takeMessage sz b = (.ok m, rem) → Q m)
    (hI : ∀ b b', I b → (takeMessage sz b).2 = some b' → I b') :
    ∀ f ob rs, (∀ b, ob = some b → I b) → pduIter sz f ob = some rs → ∀ m, Res.ok m ∈ rs → Q m := by
  intro f ob rs hb h m hm
  fun_induction pduIter sz f ob generalizing rs
  case case1 => cases h; cases hm
  case case3 b _ _ ih =>
    cases h
    rcases List.mem_cons.1 hm with hm | hm
    · exact hQ b m _ (hb b rfl) (Prod.ext hm.symm rfl)
    · exact ih _ (fun b' hb' => hI b b' (hb b rfl) hb') ‹_› hm
  all_goals cases h

/-- **error_not_malformed** (iterator) – whatever errors the iterator reports,
every message it does yield is bounded and consistent: nothing malformed is
emitted next to an error. -/
theorem iter_items_ok : ∀ (f : Nat) (ob : Option (B N)) (rs : List (Res (Msg N))),
    pduIter sz f ob = some rs → ∀ m, Res.ok m ∈ rs →
      m.lenField ≤ 4096 ∧ m.lenField = m.actualLen sz ∧ m.attrLenField = m.actualAttrLen sz :=
  fun f ob rs => iter_induct sz (I := fun _ => True) (fun _ _ _ _ h => (takeMessage_ok sz h).1)
    (fun _ _ _ _ => trivial) f ob rs (fun _ _ => trivial)

/-- A next hop without a wire form is refused where it is set (an error, not a
panic later); every encodable next hop is accepted.  This is why builders, and so
all theorems above, only range over encodable next hops. -/
theorem set_nexthop_refuses_unimplemented (b : B N) :
    setMpNexthop b .unimplemented = none ∧ ∀ nh, (setMpNexthop b (.known nh)).isSome = true :=
  ⟨rfl, fun _ => rfl⟩

/-- A link-local address is accepted exactly next to an IPv6 *unicast* next hop
(`Unicast(V6)`, or `Ipv6LL` already) or none yet; the builder then holds the
32-octet form. Next to any other next hop - an IPv6 *multicast* one included
(`set_nexthop_ll_multicast`), which has no form with a link-local address in
routecore's `NextHop` - it is an error (`IllegalCombination`), not a panic – so
`set_nexthop_ll_addr` cannot take a builder outside the states the theorems
above range over. -/
theorem set_nexthop_ll_spec (b : B N) :
    (match setNexthopLl b with
     | some b' => (∃ l, b'.ann = some (l, .ll)) ∧ b'.wd = b.wd ∧ b'.attrs = b.attrs ∧ b'.annList = b.annList
     | none => ∃ l nh, b.ann = some (l, nh) ∧ nh ≠ .v6 ∧ nh ≠ .ll) := by
  unfold setNexthopLl B.annList
  rcases h : b.ann with _ | ⟨l, nh⟩
  · exact ⟨⟨[], rfl⟩, rfl, rfl, rfl⟩
  · cases nh
    case v6 => exact ⟨⟨l, rfl⟩, rfl, rfl, rfl⟩
    case ll => exact ⟨⟨l, rfl⟩, rfl, rfl, rfl⟩
    all_goals exact ⟨l, _, rfl, by decide, by decide⟩

/-- next to `Multicast(V6)` - the default next hop of the IPv6 multicast NLRI
types - the link-local address is refused (update_builder.rs:185-188) -/
theorem set_nexthop_ll_multicast (b : B N) (l : List N) (h : b.ann = some (l, .m6)) :
    setNexthopLl b = none := by
  unfold setNexthopLl; rw [h]

/-- The iterator and `into_messages` are the same loop: when `into_messages`
succeeds, `PduIterator` yields exactly those messages (all `Ok`) and then ends –
so conservation, attributes and non-emptiness hold for the iterator's output too. -/
theorem iter_agrees : ∀ (f : Nat) (b : B N) (ms : List (Msg N)),
    intoMessages sz f b = .ok ms → pduIter sz f (some b) = some (ms.map Res.ok) := by
  refine run_induct sz ?_ ?_
  · intro f b m ht
    cases f <;> simp [pduIter, ht]
  · intro f b m b' ms ht ih
    simp [pduIter, ht, ih]

/-- a builder as the public API can make it without leaving an empty MP builder
behind: no `set_nexthop` without announcements, no `add_withdrawals_from_pdu`
that found nothing -/
def WfB (b : B N) : Prop := b.wd ≠ some [] ∧ ∀ nh, b.ann ≠ some ([], nh)

/-- this withdrawal does not even fit in a PDU of its own -/
def WdTooBig (w : N) : Prop :=
  calcPduLen sz { wd := some [w], ann := none, attrs := [] } > MAX_PDU

/-- this announcement, with the attributes and next hop, does not fit in a PDU
of its own -/
def AnnTooBig (attrs : List Nat) (nh : NextHop) (a : N) : Prop :=
  calcPduLen sz { wd := none, ann := some ([a], nh), attrs := attrs } > MAX_PDU

/-- the input cannot be represented: one NLRI is too large for any PDU, or there
are no NLRI to split and the attributes alone exceed the PDU -/
def TooBig (b : B N) : Prop :=
  (∃ w ∈ b.wdList, WdTooBig sz w) ∨
  (∃ a ∈ b.annList, ∃ nh, nhOfAnn b.ann = some nh ∧ AnnTooBig sz b.attrs nh a) ∨
  (nlriCount b = 0 ∧ calcPduLen sz b > MAX_PDU)

private theorem calc_wd_only (l : List N) :
    calcPduLen sz { wd := some l, ann := none, attrs := [] } = 23 + unreachLen sz l := by
  simp [calcPduLen, optReachLen, optUnreachLen, attrsLen]

private theorem calc_ann_only (l : List N) (nh : NextHop) (as : List Nat) :
    calcPduLen sz { wd := none, ann := some (l, nh), attrs := as } =
      23 + attrsLen as + reachLen sz l nh := by
  simp [calcPduLen, optReachLen, optUnreachLen]
  omega

private theorem isValid_of_wf {b : B N} (h : WfB b) : isValid b = none := by
  obtain ⟨h1, h2⟩ := h
  have ha : annIsEmpty b.ann = false := by
    rcases ha : b.ann with _ | ⟨_ | _, nh⟩
    · rfl
    · exact absurd ha (h2 nh)
    · rfl
  have hw : wdIsEmpty b.wd = false := by
    rcases hw : b.wd with _ | _ | _
    · rfl
    · exact absurd hw h1
    · rfl
  simp [isValid, ha, hw]

/-- an accepted batch holds no NLRI that is too big, judged with the builder's
attributes and next hop (which an announcing batch carries) -/
private theorem batch_no_big {b bb : B N} {rem : Option (B N)} {m : Msg N} (hb : Batch b bb rem)
    (h : intoMessage sz bb = .ok m) :
    (∀ w ∈ bb.wdList, ¬ WdTooBig sz w) ∧
    (∀ a ∈ bb.annList, ∀ nh, nhOfAnn b.ann = some nh → ¬ AnnTooBig sz b.attrs nh a) := by
  have hle := (intoMessage_ok sz h).2.1
  -- one NLRI of the batch needs no more room than the batch
  constructor
  · intro w hw hbig
    unfold WdTooBig at hbig
    rw [calc_wd_only] at hbig
    unfold B.wdList at hw
    rcases hwd : bb.wd with _ | l <;> rw [hwd] at hw
    · cases hw
    · have := unreachLen_mono sz (a := [w]) (by simpa using sumSz_mem_le sz hw)
      simp only [calcPduLen, hwd, optUnreachLen] at hle
      omega
  · intro a ha nh hn hbig
    obtain ⟨e1, e2⟩ := hb.attrs (List.ne_nil_of_mem ha)
    unfold AnnTooBig at hbig
    rw [calc_ann_only, ← e1] at hbig
    rw [← e2] at hn
    unfold B.annList at ha
    rcases hann : bb.ann with _ | ⟨l, nh'⟩ <;> rw [hann] at ha hn
    · cases ha
    · cases hn
      have := reachLen_mono sz (a := [a]) nh (by simpa using sumSz_mem_le sz ha)
      simp only [calcPduLen, hann, optReachLen] at hle
      omega

private theorem tooBig_rem {b bb b' : B N} {m : Msg N} (hb : Batch b bb (some b'))
    (hm : intoMessage sz bb = .ok m) : TooBig sz b ↔ TooBig sz b' := by
  obtain ⟨nw, na⟩ := batch_no_big sz hb hm
  obtain ⟨r1, r2, r3, r4⟩ := hb.rem b' rfl
  unfold TooBig
  rw [← hb.wd, ← hb.ann, r1, r2]
  simp only [remWd, remAnn, List.mem_append]
  constructor
  · rintro (⟨w, hmem | hmem, hbig⟩ | ⟨a, hmem | hmem, nh, hn, hbig⟩ | ⟨h0, _⟩)
    · exact absurd hbig (nw w hmem)
    · exact .inl ⟨w, hmem, hbig⟩
    · exact absurd hbig (na a hmem nh hn)
    · exact .inr (.inl ⟨a, hmem, nh, hn, hbig⟩)
    · omega
  · rintro (⟨w, hmem, hbig⟩ | ⟨a, hmem, nh, hn, hbig⟩ | ⟨h0, _⟩)
    · exact .inl ⟨w, .inr hmem, hbig⟩
    · exact .inr (.inl ⟨a, .inr hmem, nh, hn, hbig⟩)
    · omega

private theorem not_tooBig_last {b bb : B N} {m : Msg N} (hb : Batch b bb none)
    (hm : intoMessage sz bb = .ok m) (h0 : nlriCount b = 0 → calcPduLen sz b ≤ MAX_PDU) :
    ¬ TooBig sz b := by
  obtain ⟨nw, na⟩ := batch_no_big sz hb hm
  have hw : bb.wdList = b.wdList := (List.append_nil _).symm.trans hb.wd
  have ha : bb.annList = b.annList := (List.append_nil _).symm.trans hb.ann
  rintro (⟨w, hmem, hbig⟩ | ⟨a, hmem, nh, hn, hbig⟩ | ⟨hz, hbig⟩)
  · exact nw w (hw ▸ hmem) hbig
  · exact na a (ha ▸ hmem) nh hn hbig
  · have := h0 hz; omega

private theorem err_too_large {b : B N} (hwf : WfB b) (he : ∃ e, intoMessage sz b = .err e) :
    calcPduLen sz b > MAX_PDU :=
  ((intoMessage_err_iff sz b).1 he).resolve_left fun h => h (isValid_of_wf hwf)

private theorem wd_batch_err {l : List N} {k : Nat} (hk1 : 1 ≤ k) (hk2 : k ≤ l.length)
    (hk3 : sumSz sz (l.take k) ≤ BATCH ∨ k = 1)
    (he : ∃ e, intoMessage sz { wd := some (l.take k), ann := none, attrs := [] } = .err e) :
    ∃ w ∈ l, WdTooBig sz w := by
  have h := err_too_large sz ⟨fun h => take_ne_nil hk1 hk2 (Option.some.inj h),
    fun _ h => Option.some_ne_none _ h.symm⟩ he
  rcases hk3 with hsum | rfl
  · have hsum : _ ≤ 4000 := hsum
    have := hdrLen_le (unreachValueLen sz (l.take k))
    rw [calc_wd_only] at h
    unfold unreachLen unreachValueLen MAX_PDU at *
    omega
  · cases l with
    | nil => cases hk2
    | cons w ws => exact ⟨w, List.mem_cons_self, h⟩

/-- a batch of announcements within `limit` fits a PDU with the attributes and
the next hop (the NLRI take at least one octet, so `limit` did not saturate) -/
private theorem ann_batch_err (hsz : ∀ n, 1 ≤ sz n) {l : List N} {k : Nat} (nh : NextHop)
    (attrs : List Nat) (hk1 : 1 ≤ k) (hk2 : k ≤ l.length)
    (hk3 : sumSz sz (l.take k) ≤ MAX_PDU - ((16 + 2 + 1 + 2 + 2) + 8 + nh.composeLen + attrsLen attrs)
      ∨ k = 1)
    (he : ∃ e, intoMessage sz { wd := none, ann := some (l.take k, nh), attrs := attrs } = .err e) :
    ∃ a ∈ l, AnnTooBig sz attrs nh a := by
  have htk := take_ne_nil hk1 hk2
  have h := err_too_large sz ⟨fun h => Option.some_ne_none _ h.symm,
    fun _ h => htk (Prod.mk.inj (Option.some.inj h)).1⟩ he
  rcases hk3 with hsum | rfl
  · have hpos := sumSz_pos_of_ne_nil sz hsz htk
    have := hdrLen_le (reachValueLen sz (l.take k) nh)
    rw [calc_ann_only] at h
    unfold reachLen reachValueLen MAX_PDU at *
    omega
  · cases l with
    | nil => cases hk2
    | cons a as => exact ⟨a, List.mem_cons_self, h⟩

private theorem takeMessage_wf (hsz : ∀ n, 1 ≤ sz n) {b : B N} (hwf : WfB b) :
    ((∃ e, (takeMessage sz b).1 = .err e) → TooBig sz b) ∧
    (∀ b', (takeMessage sz b).2 = some b' → WfB b') ∧
    (∀ m, takeMessage sz b = (.ok m, none) → nlriCount b = 0 → calcPduLen sz b ≤ MAX_PDU) := by
  rcases takeMessage_cases sz b with ⟨hle, ht⟩ | ⟨l, k, hw, hk1, hk2, hk3, ht⟩ |
      ⟨l, nh, k, hwl, ha, hk1, hk2, hk3, ht⟩ | ⟨hwl, hal, hbig, ht⟩ <;> rw [ht]
  · exact ⟨fun he => absurd (err_too_large sz hwf he) (Nat.not_lt.2 hle), fun _ h => (by cases h),
      fun _ _ _ => hle⟩
  · have hl : b.wdList = l := by rw [B.wdList, hw]; rfl
    refine ⟨fun he => .inl (hl ▸ wd_batch_err sz hk1 hk2 hk3 he), fun b' hr => ?_, fun _ _ h0 => ?_⟩
    · obtain ⟨rfl, _⟩ := intoRemainder_some hr
      exact ⟨ifEmpty_ne _, hwf.2⟩
    · rw [nlriCount_eq, hl] at h0; omega
  · have hl : b.annList = l := by rw [B.annList, ha]
    refine ⟨fun he => .inr (.inl ?_), fun b' hr => ?_, fun _ _ h0 => ?_⟩
    · obtain ⟨a, hmem, hbig⟩ := ann_batch_err sz hsz nh b.attrs hk1 hk2 hk3 he
      exact ⟨a, hl ▸ hmem, nh, by rw [ha]; rfl, hbig⟩
    · obtain ⟨rfl, hpos⟩ := intoRemainder_some hr
      refine ⟨hwf.1, fun nh' h => ?_⟩
      have hd : l.drop k = [] := (Prod.mk.inj (Option.some.inj h)).1
      rw [nlriCount_eq] at hpos
      have : 1 ≤ b.wdList.length + (l.drop k).length := hpos
      rw [hwl, hd] at this
      cases this
    · rw [nlriCount_eq, hl] at h0; omega
  · exact ⟨fun _ => .inr (.inr ⟨by rw [nlriCount_eq, hwl, hal]; rfl, hbig⟩), fun _ h => (by cases h),
      fun _ h => (by cases h)⟩

private theorem error_iff_aux (hsz : ∀ n, 1 ≤ sz n) : ∀ (f : Nat) (b : B N), WfB b →
    nlriCount b + 1 ≤ f → ((∃ e, intoMessages sz f b = .err e) ↔ TooBig sz b) := by
  intro f
  induction f with
  | zero => intro b _ h; omega
  | succ f ih =>
    intro b hwf hf
    obtain ⟨herr, hwf', h0⟩ := takeMessage_wf sz hsz hwf
    simp only [intoMessages]
    split
    · rename_i m ht
      obtain ⟨_, hm, hb⟩ := takeMessage_ok sz ht
      exact ⟨fun ⟨_, he⟩ => (by cases he), fun h => absurd h (not_tooBig_last sz hb hm (h0 m ht))⟩
    · rename_i m b' ht
      obtain ⟨_, hm, hb⟩ := takeMessage_ok sz ht
      have hlt := (hb.rem b' rfl).2.2.1
      rw [tooBig_rem sz hb hm, ← ih b' (hwf' b' (by rw [ht])) (by omega)]
      cases intoMessages sz f b' <;> simp
    · rename_i e _ ht
      exact ⟨fun _ => herr ⟨e, by rw [ht]⟩, fun _ => ⟨e, rfl⟩⟩
    · rename_i ht
      exact absurd (by rw [ht]) (takeMessage_ne_panic sz b)

/-- **error_not_malformed** – exact characterisation of the error result.  For a
builder without empty MP parts and NLRI of at least one byte, `into_messages`
reports an error exactly when the input cannot be represented: some withdrawal
does not fit in a PDU by itself, some announcement does not fit in a PDU together
with the attributes and the next hop, or there is no NLRI and the attributes alone
exceed the PDU.  (An `Err` carries no messages; what was produced on the way is
covered by `iter_items_ok`.) -/
theorem error_iff (hsz : ∀ n, 1 ≤ sz n) (b : B N) (hwf : WfB b) :
    (∃ e, intoMessages sz (nlriCount b + 2) b = .err e) ↔ TooBig sz b :=
  error_iff_aux sz hsz _ b hwf (by omega)

/-- with an empty MP builder (`set_nexthop` without announcements, or an empty
MP_UNREACH_NLRI next to announcements or attributes) a builder that fits in one
PDU is refused – an error, never a malformed message -/
theorem invalid_is_error {b : B N} (hv : isValid b ≠ none) (hfit : largerThan sz b MAX_PDU = false)
    (f : Nat) : ∃ e, intoMessages sz (f + 1) b = .err e := by
  have ht : takeMessage sz b = (intoMessage sz b, none) := by
    unfold takeMessage; simp [hfit]
  obtain ⟨e, he⟩ := (intoMessage_err_iff sz b).2 (Or.inl hv)
  exact ⟨e, by simp [intoMessages, ht, he]⟩

/-- the hypotheses of `error_iff` are satisfiable by a non-trivial builder, and
both verdicts occur -/
example : WfB ({ wd := some [3, 5], ann := some ([4, 4000], .v6), attrs := [7, 300] } : B Nat) :=
  ⟨by decide, by intro nh h; cases h⟩

/-! ## the octets on the wire, judged by the decoder model of C01 / C02

From here on the NLRI type of the builder is one of the 26 NLRI types of
afisafi.rs – a family `f` of Rc/Model/Nlri.lean without (`ap = false`) or with
path ids –, composed by the codecs property C05 is about; the next hop has
address octets `nhb nh`; the attribute map composes to the TLV sequence `others`
(Rc/Model/BuilderWire.lean).  `wireBytes` are the octets `finish` writes.
The decoder is `Rc.Upd.parseUpdate` with the accessors of Rc/Model/Update.lean
(the model of `UpdateMessage::from_octets` that C01 / C02 / C17 tie to the code). -/

section Decoded
open Rc.Nlri

variable {f : Fam} {ap : Bool} {nhb : NextHop → Bytes} {others : List Upd.RawAttr}

/-- A builder for NLRI type (`f`, `ap`) as the API can fill it: the NLRI are
values `compose` accepts (C05's `wf` – what the family's parser returns, theorem
`Rc.Thm.C05.dec_wf`), path ids are `u32`s, the next hop is written with the
octets `compose_len` counts, the attribute map composes to well-formed TLVs
without MP_REACH_NLRI / MP_UNREACH_NLRI (`from_attributes_builder` drops them)
and the model's attribute list is the list of their composed lengths. -/
structure BuilderWf (f : Fam) (ap : Bool) (nhb : NextHop → Bytes) (others : List Upd.RawAttr)
    (b : B (NV f)) : Prop where
  wd : Upd.NlrisWf f ap b.wdList
  ann : Upd.NlrisWf f ap b.annList
  nh : ∀ nh, (nhb nh).length + 1 = nh.composeLen
  others_wf : ∀ a ∈ others, a.wf = true
  others_mp : ∀ a ∈ others, a.tc.toNat ≠ 14 ∧ a.tc.toNat ≠ 15
  attrs : b.attrs = others.map fun a => (Upd.encRaw a).length

private theorem nlrisWf_subset {l l' : List (NV f)} (h : Upd.NlrisWf f ap l) (hs : ∀ x ∈ l', x ∈ l) :
    Upd.NlrisWf f ap l' := by
  cases ap <;> simp only [Upd.NlrisWf, Bool.false_eq_true, ↓reduceIte] at h ⊢ <;>
    exact fun x hx => h x (hs x hx)

private theorem msgOthers_eq {m : Msg (NV f)} (h : m.attrs = others.map fun a => (Upd.encRaw a).length) :
    msgOthers others m = others := by
  unfold msgOthers
  split
  · rename_i he
    rw [List.isEmpty_iff, h, List.map_eq_nil_iff] at he
    exact he.symm
  · rfl

private theorem msgWf_of {b : B (NV f)} {m : Msg (NV f)} (hb : BuilderWf f ap nhb others b)
    (hwd : ∀ x ∈ m.wdList, x ∈ b.wdList) (hann : ∀ x ∈ m.annList, x ∈ b.annList)
    (hat : m.attrs = b.attrs ∨ m.attrs = []) : MsgWf f ap nhb (msgOthers others m) m := by
  have hsub : ∀ a ∈ msgOthers others m, a ∈ others := by
    intro a ha; unfold msgOthers at ha; split at ha
    · cases ha
    · exact ha
  refine ⟨nlrisWf_subset hb.wd hwd, nlrisWf_subset hb.ann hann, hb.nh,
    fun a ha => hb.others_wf a (hsub a ha), fun a ha => hb.others_mp a (hsub a ha), ?_⟩
  rcases hat with hat | hat
  · rw [msgOthers_eq (hat.trans hb.attrs), hat, hb.attrs, encRaws_length_sum]
  · rw [msgOthers, hat]
    rfl

private theorem builderWf_rem {b b' : B (NV f)} (hb : BuilderWf f ap nhb others b)
    (h : (takeMessage (nlriSz f ap) b).2 = some b') : BuilderWf f ap nhb others b' := by
  obtain ⟨_, hat, hw, ha⟩ := takeMessage_rem _ h
  exact ⟨nlrisWf_subset hb.wd hw, nlrisWf_subset hb.ann ha, hb.nh, hb.others_wf, hb.others_mp,
    hat ▸ hb.attrs⟩

/-- **produced messages are concrete** (`take_message`): the message of one step
has consistent fields and concrete parts, and so has the remainder. -/
theorem take_message_wf {b : B (NV f)} {m : Msg (NV f)} {rem : Option (B (NV f))}
    (hb : BuilderWf f ap nhb others b) (h : takeMessage (nlriSz f ap) b = (.ok m, rem)) :
    MsgOk (nlriSz f ap) m ∧ MsgWf f ap nhb (msgOthers others m) m ∧
      ∀ b', rem = some b' → BuilderWf f ap nhb others b' := by
  obtain ⟨a1, a2, a3, hw, ha, _⟩ := take_message_step (nlriSz f ap) h
  exact ⟨⟨a1, a2, a3⟩,
    msgWf_of hb (fun x hx => hw ▸ List.mem_append_left _ hx) (fun x hx => ha ▸ List.mem_append_left _ hx)
      (takeMessage_attrs _ b h),
    fun b' hb' => builderWf_rem hb (by rw [h, hb'])⟩

/-- ... `into_message` -/
theorem into_message_wf {b : B (NV f)} {m : Msg (NV f)} (hb : BuilderWf f ap nhb others b)
    (h : intoMessage (nlriSz f ap) b = .ok m) :
    MsgOk (nlriSz f ap) m ∧ MsgWf f ap nhb (msgOthers others m) m := by
  obtain ⟨a1, a2, a3, hw, ha, hat, _⟩ := into_message_bounded (nlriSz f ap) h
  exact ⟨⟨a1, a2, a3⟩, msgWf_of hb (fun x hx => hw ▸ hx) (fun x hx => ha ▸ hx) (.inl hat)⟩

/-- ... the iterator, also when it reports an error later or earlier -/
theorem iter_wf : ∀ (fuel : Nat) (ob : Option (B (NV f))) (rs : List (Res (Msg (NV f)))),
    (∀ b, ob = some b → BuilderWf f ap nhb others b) → pduIter (nlriSz f ap) fuel ob = some rs →
    ∀ m, Res.ok m ∈ rs → MsgOk (nlriSz f ap) m ∧ MsgWf f ap nhb (msgOthers others m) m :=
  iter_induct (nlriSz f ap) (I := BuilderWf f ap nhb others)
    (fun _ _ _ hb h => ⟨(take_message_wf hb h).1, (take_message_wf hb h).2.1⟩)
    (fun _ _ hb h => builderWf_rem hb h)

/-- ... `into_messages`, whose messages are the iterator's (`iter_agrees`) -/
theorem into_messages_wf : ∀ (fuel : Nat) (b : B (NV f)) (ms : List (Msg (NV f))),
    BuilderWf f ap nhb others b → intoMessages (nlriSz f ap) fuel b = .ok ms →
    ∀ m ∈ ms, MsgOk (nlriSz f ap) m ∧ MsgWf f ap nhb (msgOthers others m) m :=
  fun fuel b ms hb h m hm =>
    iter_wf fuel (some b) _ (fun _ hb' => Option.some.inj hb' ▸ hb) (iter_agrees _ fuel b ms h) m
      (List.mem_map.mpr ⟨m, hm, rfl⟩)

/-- **emitted_pdu_decodes** – "a well-formed UPDATE … whose header and section
length fields match its actual bytes as judged by an independent decoder", as a
theorem about the decoder model: the octets of a message with consistent fields
and concrete parts (every message any entry point produces: `take_message_wf`,
`into_message_wf`, `into_messages_wf`, `iter_wf`) are accepted by `parseUpdate`
under EVERY session configuration; they are exactly as many as the header length
field says, at most 4096; the decoder's three sections are an empty
withdrawn-routes section, an attribute section of exactly `attrLenField` octets
(`u.attrs.length`; the decoder's `attrLen` field is that length by definition,
`Rc.Upd.Msg.attrLen`, so it is not stated separately) and no conventional NLRI,
and its `length()` is the header field.  "EVERY session configuration" is a
statement about the decoder MODEL (acceptance of these octets does not depend on
ADD-PATH / AS width there); on the code side the harness calls `into_message`
with the session that matches the NLRI type - that `from_octets` on the builder's
own output also succeeds under a mismatching session rests on C01 / C02 (observed
by hand, ADD-PATH builder in a plain session and the converse; not a request of
the line protocol). -/
theorem emitted_pdu_decodes (cfg : Upd.Cfg) {oth : List Upd.RawAttr} {m : Msg (NV f)}
    (hok : MsgOk (nlriSz f ap) m) (hwf : MsgWf f ap nhb oth m) :
    ∃ u, Upd.parseUpdate cfg (wireBytes f ap nhb oth m) = .ok u ∧
      (wireBytes f ap nhb oth m).length = m.lenField ∧ m.lenField ≤ 4096 ∧
      u.length = m.lenField ∧ u.wd = [] ∧ u.wdLen = 0 ∧ u.ann = [] ∧
      u.attrs.length = m.attrLenField := by
  obtain ⟨u, hp, _, h1, h2, h3, h4, h5, _⟩ := msg_parsed cfg hwf hok
  exact ⟨u, hp, wireBytes_length hwf hok, hok.1, h1, h2, h4, h3, h5⟩

/-- **emitted_is_reference_encoding** – the octets `finish` writes are what
C01's reference encoder produces for the content of the message, in two layers
(the first conjunct alone speaks of the FRAMING only, since
`contentOf` holds the MP attributes as TLVs whose value octets are the builder
model's own `Builder.reachValue` / `unreachValue`):
* framing (RFC 4271 4.3): header, an empty withdrawn-routes section, the
  attribute TLVs MP_REACH_NLRI, MP_UNREACH_NLRI and the attribute map in this
  order with their flags / lengths, no conventional NLRI - `Upd.encUpdate` of
  `contentOf` is `wireBytes`;
* values (RFC 4760 3 / 4, the NLRI composers of C05): the value octets of the
  MP_REACH_NLRI TLV are C01's reference `Upd.reachValue` (AFI, SAFI, next-hop
  length + octets, reserved octet, NLRI) over `Upd.encNlris` of the announced
  NLRI, those of the MP_UNREACH_NLRI TLV `Upd.unreachValue` over `Upd.encNlris`
  of the withdrawn NLRI - both encoders succeed.
That a DECODER reads the same content back is `emitted_pdu_content`. -/
theorem emitted_is_reference_encoding (cfg : Upd.Cfg) {oth : List Upd.RawAttr} {m : Msg (NV f)}
    (hok : MsgOk (nlriSz f ap) m) (hwf : MsgWf f ap nhb oth m) :
    Upd.encUpdate cfg (contentOf f ap nhb oth m) = .ok (wireBytes f ap nhb oth m) ∧
    (∀ l nh, m.ann = some (l, nh) → ∃ nb, Upd.encNlris f ap l = .ok nb ∧
      (reachAttr f ap nhb l nh).v = Upd.reachValue f (nhb nh) nb) ∧
    (∀ l, m.wd = some l → ∃ nb, Upd.encNlris f ap l = .ok nb ∧
      (unreachAttr f ap nhb l).v = Upd.unreachValue f nb) := by
  refine ⟨encUpdate_contentOf cfg hwf hok, ?_, ?_⟩
  · intro l nh hm
    exact ⟨_, (hwf.reachLen hm).2.2, reachValue_eq f ap nhb l nh⟩
  · intro l hm
    exact ⟨_, (hwf.unreachLen hm).2.2, unreachValue_eq f ap nhb l⟩

/-- **emitted_pdu_content** – "the emitted bytes hold exactly these NLRI /
attributes": under a session configuration whose ADD-PATH setting for the
builder's family is the one its NLRI type has, the decoder model reads from the
octets of a message
* `path_attributes()`: exactly the sequence MP_REACH_NLRI (if the message
  announces), MP_UNREACH_NLRI (if it withdraws), then the attribute map's TLVs –
  same flags, type codes and value octets, in this order, nothing else;
* `announcements()` / `withdrawals()` (MP items then conventional ones) and
  `announcements_vec()` / `withdrawals_vec()`: exactly the message's announced /
  withdrawn NLRI (with their path ids for an ADD-PATH type), each once, in
  order, every item `Ok`, the iterators end;
* `mp_next_hop()`: the next hop the octets `nhb nh` stand for, whenever they
  are a next hop of the family (RFC 4760 / 2545 / 4364 / 4659 / 8955 lengths);
  a message without MP_REACH_NLRI has none. -/
theorem emitted_pdu_content (cfg : Upd.Cfg) (hcfg : cfg.rx (Upd.famCode f) = ap)
    {oth : List Upd.RawAttr} {m : Msg (NV f)}
    (hok : MsgOk (nlriSz f ap) m) (hwf : MsgWf f ap nhb oth m) :
    ∃ u, Upd.parseUpdate cfg (wireBytes f ap nhb oth m) = .ok u ∧
      u.pathAttributes = ((rawAttrs f ap nhb oth m).map (Upd.reportAttr cfg.four), true) ∧
      u.announcements = .ok (Upd.reportNlris f ap m.annList, true) ∧
      u.withdrawals = .ok (Upd.reportNlris f ap m.wdList, true) ∧
      u.annVec = .ok (Upd.anyNlris f ap m.annList) ∧
      u.wdVec = .ok (Upd.anyNlris f ap m.wdList) ∧
      (match m.ann with
       | some (_, nh) => ∀ x, Upd.nhSpec f (nhb nh) = some x → u.mpNextHop = .ok (some x)
       | none => u.mpNextHop = .ok none) := by
  obtain ⟨u, hp, hpar, _, _, _, _, _, hpa⟩ := msg_parsed cfg hwf hok
  obtain ⟨a1, a2, a3⟩ := hpar.ann hcfg hwf hok
  obtain ⟨w1, w2⟩ := hpar.wd hcfg hwf hok
  exact ⟨u, hp, hpa, a1, w1, a2, w2, a3⟩

/-- what `announcements_vec()` returns for the octets `bs` (nothing when they
are not accepted or an item is an error) -/
def decodedAnn (cfg : Upd.Cfg) (bs : Bytes) : List Upd.AnyNlri :=
  match Upd.parseUpdate cfg bs with
  | .ok u => (match u.annVec with | .ok l => l | _ => [])
  | _ => []

/-- what `withdrawals_vec()` returns for the octets `bs` -/
def decodedWd (cfg : Upd.Cfg) (bs : Bytes) : List Upd.AnyNlri :=
  match Upd.parseUpdate cfg bs with
  | .ok u => (match u.wdVec with | .ok l => l | _ => [])
  | _ => []

private theorem anyNlris_flatMap (g : Msg (NV f) → List (NV f)) (ms : List (Msg (NV f))) :
    ms.flatMap (fun m => Upd.anyNlris f ap (g m)) = Upd.anyNlris f ap (ms.flatMap g) := by
  cases ap <;> exact List.map_flatMap.symm

/-- **end_to_end_conservation** – the conservation clause on the octets: when
`into_messages` succeeds, every octet string it returns is accepted by the
decoder model, and decoding them all and concatenating what
`announcements_vec()` (resp. `withdrawals_vec()`) returns yields exactly the
builder's announcements (withdrawals): each once, in order, with the path ids of
an ADD-PATH type.  Every message that announces anything carries the whole
attribute map (`rawAttrs` then ends in `others`, see `emitted_pdu_content`) and
the builder's next hop - **as far as the model can say it**: `NextHop` here is the
KIND of next hop (8 tags) and the address octets are ONE function `nhb` of the
kind for the whole run, so `nhOfAnn m.ann = nhOfAnn b.ann` is "the same kind,
hence the same `nhb` octets"; a `split` that kept the kind and changed the address
(update_builder.rs:930 `..*self`) is not expressible in the model.  That the
ADDRESS octets of every announcing PDU are the builder's is checked on the code:
by the digest of value-carrying lines and by the oracle (`d.nh == exp_nh` on
every announcing PDU).  By `iter_agrees` the same octet strings
come out of `PduIterator`. -/
theorem end_to_end_conservation (cfg : Upd.Cfg) (hcfg : cfg.rx (Upd.famCode f) = ap)
    {fuel : Nat} {b : B (NV f)} {ms : List (Msg (NV f))} (hb : BuilderWf f ap nhb others b)
    (h : intoMessages (nlriSz f ap) fuel b = .ok ms) :
    (∀ m ∈ ms, ∃ u, Upd.parseUpdate cfg (wireBytes f ap nhb (msgOthers others m) m) = .ok u ∧
      u.length = m.lenField ∧ m.lenField ≤ 4096) ∧
    ms.flatMap (fun m => decodedAnn cfg (wireBytes f ap nhb (msgOthers others m) m)) =
      Upd.anyNlris f ap b.annList ∧
    ms.flatMap (fun m => decodedWd cfg (wireBytes f ap nhb (msgOthers others m) m)) =
      Upd.anyNlris f ap b.wdList ∧
    (∀ m ∈ ms, m.annList ≠ [] → msgOthers others m = others ∧ nhOfAnn m.ann = nhOfAnn b.ann) := by
  have hall := into_messages_wf fuel b ms hb h
  have hdec : ∀ m ∈ ms, decodedAnn cfg (wireBytes f ap nhb (msgOthers others m) m) = Upd.anyNlris f ap m.annList ∧
      decodedWd cfg (wireBytes f ap nhb (msgOthers others m) m) = Upd.anyNlris f ap m.wdList := by
    intro m hm
    obtain ⟨u, hp, _, _, _, ha, hw, _⟩ := emitted_pdu_content cfg hcfg (hall m hm).1 (hall m hm).2
    simp only [decodedAnn, decodedWd, hp, ha, hw, and_self]
  refine ⟨?_, ?_, ?_, ?_⟩
  · intro m hm
    obtain ⟨u, hp, _, hle, hl, _⟩ := emitted_pdu_decodes cfg (hall m hm).1 (hall m hm).2
    exact ⟨u, hp, hl, hle⟩
  · rw [← conserve_ann (nlriSz f ap) h, ← anyNlris_flatMap, List.flatMap_def, List.flatMap_def,
      List.map_congr_left fun m hm => (hdec m hm).1]
  · rw [← conserve_wd (nlriSz f ap) h, ← anyNlris_flatMap, List.flatMap_def, List.flatMap_def,
      List.map_congr_left fun m hm => (hdec m hm).2]
  · intro m hm hne
    obtain ⟨hat, hnh⟩ := attrs_everywhere (nlriSz f ap) h m hm hne
    exact ⟨msgOthers_eq (hat.trans hb.attrs), hnh⟩

/-- the hypotheses are satisfiable by a non-trivial builder: IPv6 unicast with
path ids, one withdrawal, two announcements, a global + link-local next hop,
ORIGIN and a COMMUNITIES attribute; the configuration has ADD-PATH for IPv6
unicast only -/
example : BuilderWf .v6u true (fun nh => List.replicate (nh.composeLen - 1) 0)
    [⟨0x40, 1, [0]⟩, ⟨0xc0, 8, [0xfd, 0xe8, 0, 1]⟩]
    { wd := some [(7, ⟨true, 33, [0x20, 0x01, 0x0d, 0xb8, 0x80, 0, 0, 0, 0, 0, 0, 0, 0, 0, 0, 0]⟩)],
      ann := some ([(1, ⟨true, 0, [0, 0, 0, 0, 0, 0, 0, 0, 0, 0, 0, 0, 0, 0, 0, 0]⟩),
        (4294967295, ⟨true, 16, [0x20, 0x01, 0, 0, 0, 0, 0, 0, 0, 0, 0, 0, 0, 0, 0, 0]⟩)], .ll),
      attrs := [4, 7] } :=
  ⟨by simp only [Upd.NlrisWf, B.wdList]; decide, by simp only [Upd.NlrisWf, B.annList]; decide,
    by intro nh; cases nh <;> rfl, by decide, by decide, rfl⟩

example : (⟨true, [((2, 1), .both)]⟩ : Upd.Cfg).rx (Upd.famCode .v6u) = true := by decide

end Decoded

end Rc.Thm.C06
