/-
C14 – Equality, ordering and hashing of NLRI agree with one another.

Property theorems only; lemmas in `Rc/Lemmas/NlriOrd.lean`, model in
`Rc/Model/NlriOrd.lean`.  `famImpl f` is `==`/`cmp`/`Hash` of the plain NLRI
type of family `f`, `famImplAp f` of its ADD-PATH type (26 variants),
`anyEq`/`anyCmp`/`anyHashKey` those of the `Nlri` enum.

The hypothesis `wf` is a *representation* invariant only: it says which model
values stand for a value of the Rust type (a `Pfx` is a valid `inetnum::Prefix`:
4/16 address octets, length within the family, host bits zero; an EVPN route
type is a value of `EvpnRouteType`, the non-normalised `Unimplemented(1..=5)`
included).  It excludes no value of the Rust types that the harness can build:
label stacks of any length, an `afi` that is not the family's inside
`IpvNFlowSpecNlri` (serde), route targets of any length are all covered, and the
harness runs them (`vcmp` / `vtri`).  Not represented: `Afi::Unimplemented(1|2|25)`,
which only the `arbitrary` feature constructs.

What is NOT a theorem here: "values decoded from different buffer types holding
the same bytes are ==".  The model has no buffer types (every `Octs` is a byte
list); that clause is decided by the harness alone (reply field `xbuf`).
-/
import Rc.Lemmas.NlriOrd

namespace Rc.Thm.C14
open Rc Rc.Nlri Rc.NlriOrd

/-! ### the 13 plain NLRI types -/

/-- two values compare `Equal` exactly when they are `==` -/
theorem cmp_eq_iff (f : Fam) (a b : f.Val) (ha : (famImpl f).wf a = true) (hb : (famImpl f).wf b = true) :
    (famImpl f).cmp a b = .eq ↔ (famImpl f).eq a b = true := (famLaws f).cmp_eq_iff a b ha hb

/-- `b.cmp(a)` is the reverse of `a.cmp(b)` -/
theorem cmp_swap (f : Fam) (a b : f.Val) (ha : (famImpl f).wf a = true) (hb : (famImpl f).wf b = true) :
    (famImpl f).cmp b a = ((famImpl f).cmp a b).swap := (famLaws f).swap a b ha hb

/-- antisymmetric: `a ≤ b` and `b ≤ a` only for `Equal` values -/
theorem cmp_antisymm (f : Fam) (a b : f.Val) (ha : (famImpl f).wf a = true) (hb : (famImpl f).wf b = true)
    (h1 : (famImpl f).cmp a b ≠ .gt) (h2 : (famImpl f).cmp b a ≠ .gt) : (famImpl f).cmp a b = .eq :=
  (famLaws f).antisymm a b ha hb h1 h2

/-- transitive -/
theorem cmp_trans (f : Fam) (a b c : f.Val) (ha : (famImpl f).wf a = true) (hb : (famImpl f).wf b = true)
    (hc : (famImpl f).wf c = true) (h1 : (famImpl f).cmp a b ≠ .gt) (h2 : (famImpl f).cmp b c ≠ .gt) :
    (famImpl f).cmp a c ≠ .gt := (famLaws f).trans_le a b c ha hb hc h1 h2

/-- connex: any two values are comparable -/
theorem cmp_connex (f : Fam) (a b : f.Val) (ha : (famImpl f).wf a = true) (hb : (famImpl f).wf b = true) :
    (famImpl f).cmp a b ≠ .gt ∨ (famImpl f).cmp b a ≠ .gt := (famLaws f).connex a b ha hb

/-- `==` is identity of the modelled values: no two different values of an NLRI type
are `==` (the buffer type apart, see the header). -/
theorem eq_iff_identical (f : Fam) (a b : f.Val) (ha : (famImpl f).wf a = true) (hb : (famImpl f).wf b = true) :
    (famImpl f).eq a b = true ↔ a = b := (famLaws f).beq_iff a b ha hb

/-- `==` values feed the same data to the hasher.  NOTE: because `==` is identity
(`eq_iff_identical`) this holds of any function of the value, so the statement carries
no information about `hashKey` itself; the content of the clause "== values hash
identically" is `eq_iff_identical` plus the fact, established by the correspondence run
and not by proof, that the real `Hash` impls feed the hasher a function of the fields
`==` reads (`hashKey`), whatever the buffer type. -/
theorem eq_hash (f : Fam) (a b : f.Val) (ha : (famImpl f).wf a = true) (hb : (famImpl f).wf b = true)
    (h : (famImpl f).eq a b = true) : (famImpl f).hashKey a = (famImpl f).hashKey b := by
  rw [((famLaws f).beq_iff a b ha hb).mp h]

/-! ### the 13 ADD-PATH types -/

/-- Two ADD-PATH NLRI are `==` exactly when the path ids are equal and the NLRI are `==`
(the clause F4 violated: the hand-written impls compared the path id only). -/
theorem addpath_eq_iff (f : Fam) (p q : Nat) (v w : f.Val) :
    (famImplAp f).eq (p, v) (q, w) = true ↔ p = q ∧ (famImpl f).eq v w = true := by
  unfold famImplAp
  split <;> simp [OrdImpl.addpathDerived, OrdImpl.addpathGeneric]

theorem addpath_cmp_eq_iff (f : Fam) (a b : Nat × f.Val) (ha : (famImplAp f).wf a = true)
    (hb : (famImplAp f).wf b = true) :
    (famImplAp f).cmp a b = .eq ↔ (famImplAp f).eq a b = true := (famApLaws f).cmp_eq_iff a b ha hb

theorem addpath_cmp_swap (f : Fam) (a b : Nat × f.Val) (ha : (famImplAp f).wf a = true)
    (hb : (famImplAp f).wf b = true) :
    (famImplAp f).cmp b a = ((famImplAp f).cmp a b).swap := (famApLaws f).swap a b ha hb

theorem addpath_cmp_antisymm (f : Fam) (a b : Nat × f.Val) (ha : (famImplAp f).wf a = true)
    (hb : (famImplAp f).wf b = true) (h1 : (famImplAp f).cmp a b ≠ .gt) (h2 : (famImplAp f).cmp b a ≠ .gt) :
    (famImplAp f).cmp a b = .eq := (famApLaws f).antisymm a b ha hb h1 h2

theorem addpath_cmp_trans (f : Fam) (a b c : Nat × f.Val) (ha : (famImplAp f).wf a = true)
    (hb : (famImplAp f).wf b = true) (hc : (famImplAp f).wf c = true)
    (h1 : (famImplAp f).cmp a b ≠ .gt) (h2 : (famImplAp f).cmp b c ≠ .gt) :
    (famImplAp f).cmp a c ≠ .gt := (famApLaws f).trans_le a b c ha hb hc h1 h2

theorem addpath_cmp_connex (f : Fam) (a b : Nat × f.Val) (ha : (famImplAp f).wf a = true)
    (hb : (famImplAp f).wf b = true) :
    (famImplAp f).cmp a b ≠ .gt ∨ (famImplAp f).cmp b a ≠ .gt := (famApLaws f).connex a b ha hb

/-- see the note at `eq_hash`: a consequence of `==` being identity -/
theorem addpath_eq_hash (f : Fam) (a b : Nat × f.Val) (ha : (famImplAp f).wf a = true)
    (hb : (famImplAp f).wf b = true) (h : (famImplAp f).eq a b = true) :
    (famImplAp f).hashKey a = (famImplAp f).hashKey b := by
  rw [((famApLaws f).beq_iff a b ha hb).mp h]

/-! ### the `Nlri` enum: all 26 variants together, pairs of different variants included -/

theorem enum_cmp_eq_iff (a b : AnyNlri) (ha : anyWf a = true) (hb : anyWf b = true) :
    anyCmp a b = .eq ↔ anyEq a b = true := anyLaws.cmp_eq_iff a b ha hb

theorem enum_cmp_swap (a b : AnyNlri) (ha : anyWf a = true) (hb : anyWf b = true) :
    anyCmp b a = (anyCmp a b).swap := anyLaws.swap a b ha hb

theorem enum_cmp_antisymm (a b : AnyNlri) (ha : anyWf a = true) (hb : anyWf b = true)
    (h1 : anyCmp a b ≠ .gt) (h2 : anyCmp b a ≠ .gt) : anyCmp a b = .eq :=
  anyLaws.antisymm a b ha hb h1 h2

theorem enum_cmp_trans (a b c : AnyNlri) (ha : anyWf a = true) (hb : anyWf b = true) (hc : anyWf c = true)
    (h1 : anyCmp a b ≠ .gt) (h2 : anyCmp b c ≠ .gt) : anyCmp a c ≠ .gt :=
  anyLaws.trans_le a b c ha hb hc h1 h2

theorem enum_cmp_connex (a b : AnyNlri) (ha : anyWf a = true) (hb : anyWf b = true) :
    anyCmp a b ≠ .gt ∨ anyCmp b a ≠ .gt := anyLaws.connex a b ha hb

/-- see the note at `eq_hash`: a consequence of `==` being identity -/
theorem enum_eq_hash (a b : AnyNlri) (ha : anyWf a = true) (hb : anyWf b = true)
    (h : anyEq a b = true) : anyHashKey a = anyHashKey b := by
  rw [(anyLaws.beq_iff a b ha hb).mp h]

/-- values of different variants are never `==` and are ordered as their `NlriType`s are -/
theorem enum_cross_variant (a b : AnyNlri) (h : a.typeIdx ≠ b.typeIdx) :
    anyEq a b = false ∧ anyCmp a b = compare a.typeIdx b.typeIdx :=
  any_of_ne a b h

/-! ### the invariants are satisfiable by non-trivial values -/

example : (famImpl .v4u).wf ⟨false, 23, [10, 1, 2, 0]⟩ = true := by decide
example : (famImplAp .v6mpls).wf (7, ⟨⟨true, 8, [0x20, 0, 0, 0, 0, 0, 0, 0, 0, 0, 0, 0, 0, 0, 0, 0]⟩, [0, 0, 17]⟩) = true := by decide
example : (famImpl .v4fs).wf ⟨1, [3, 0x81, 6]⟩ = true := by decide
/-- no hypothesis on `afi` (repair F31): an `Ipv4FlowSpecNlri` holding `afi = Ipv6` is `!=`
the one holding `afi = Ipv4` and also orders after it -/
example : (famImpl .v4fs).wf ⟨2, [3, 0x81, 6]⟩ = true ∧
    (famImpl .v4fs).eq ⟨1, [3, 0x81, 6]⟩ ⟨2, [3, 0x81, 6]⟩ = false ∧
    (famImpl .v4fs).cmp ⟨1, [3, 0x81, 6]⟩ ⟨2, [3, 0x81, 6]⟩ = .lt := by decide
/-- label octets that are not a whole number of labels, and the non-normalised route type
`Unimplemented(2)` (258) next to `MacIpAdvertisement` (2): inside the theorems -/
example : (famImpl .v4mpls).wf ⟨⟨false, 8, [10, 0, 0, 0]⟩, [1, 2]⟩ = true := by decide
example : (famImpl .evpn).wf ⟨258, [1]⟩ = true ∧ (famImpl .evpn).eq ⟨258, [1]⟩ ⟨2, [1]⟩ = false ∧
    (famImpl .evpn).cmp ⟨2, [1]⟩ ⟨258, [1]⟩ = .lt := by decide
example : anyWf ⟨.evpn, some 3, ⟨2, [1, 2, 3]⟩⟩ = true := by decide

end Rc.Thm.C14
