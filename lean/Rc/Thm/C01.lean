/-
Property C01 – UPDATE decoding reports exactly what is on the wire, for every
session configuration; End-of-RIB is recognised for exactly its family.

Property theorems only.  The decoder is the model of
`UpdateMessage::from_octets` and its accessors (Rc/Model/Update.lean, after the
repairs F1, F2, F3, F22, F22b, F29, F30); `Observation` (Rc/Model/UpdateObs.lean) has
one field per accessor of the property's `observe_at` list.  The reference
encoder `encUpdateT` (Rc/Model/UpdateObs.lean, written from RFC 4271 / 4760 /
6793 / 7911 over the value composers of C04, C13 and C05) takes a content whose
attributes are TYPED values; it is the encoder whose octets the harness
compares with its own Rust reference encoder on every run (`enc` requests).

`decode_encode` is the property's first sentence as ONE record equation.  After
it: its bridge to C04 / C13, what it says about MP attributes of an unsupported
(AFI, SAFI) and about the reserved octet, then its parts on the level of raw
attribute values (Rc/Lemmas/UpdateRaw.lean) and the End-of-RIB clauses.
-/
import Rc.Lemmas.UpdateDecEnc

namespace Rc.Thm.C01
open Rc Rc.Nlri Rc.Attr Rc.Upd

/-- **decode_encode.** For every session configuration (2- or 4-octet AS
numbers, any ADD-PATH map) and every well-formed content given as TYPED
attributes – any mix of conventional and multiprotocol sections; any set and
order of attributes of the 20 typed kinds (AS paths as hop paths or as wire
segments), of unrecognised types, MP_REACH_NLRI / MP_UNREACH_NLRI of each of
the 13 families with their NLRI lists and path ids; any flags octets, short and
extended length encodings – the reference encoding exists, and when it fits the
length field (65535; the 4096 limit of RFC 4271 is not needed), also when
octets follow the announced length: **the message is accepted and everything
the accessors report is the content that was encoded** – ONE equation between
`Observation` records, whose fields are: the three lengths; the attribute
sequence with flags, type codes, lengths and value octets; `to_owned()` of every
attribute (typed values of all 20 kinds, in the session's ASN width: AS path
hops also on two-octet sessions, the aggregator's two- or four-octet AS number,
AS4_PATH always four octets wide); conventional and MP withdrawals /
announcements with path ids, labels, route distinguishers; the chained and the
`_vec` accessors; `typed_withdrawals` / `typed_announcements` of every family;
the four `afi_safis` slots; `is_eor`; origin, AS_PATH and AS4_PATH (octets and
hops), conventional and MP next hop, `find_next_hop` for every AFI/SAFI, MED,
LOCAL_PREF, ATOMIC_AGGREGATE, aggregator, the four community iterators and
`all_communities` (standard, extended, IPv6-extended, large – in this order).

`expected cfg c` (Rc/Lemmas/UpdateObs.lean) is computed from the content alone.
`WfContent` asks for values of the Rust types (C04's `WfAttrW`, C13's hop paths
/ wire segments, C05's `wf` – in particular zero host bits, as `inetnum`
demands), AS numbers that fit a two-octet session's fields, legal next-hop
lengths, lengths that fit the length field the flags octet announces, and – if
an MP attribute is repeated – repeated with the same content. -/
theorem decode_encode (cfg : Cfg) (c : TContent) (hw : WfContent cfg c) :
    ∃ bs, encUpdateT cfg c = .ok bs ∧
      (bs.length < 65536 → ∀ trail, decObserve cfg (bs ++ trail) = .ok (expected cfg c)) := by
  obtain ⟨bs, hbs, hdec⟩ := parse_encoded cfg c hw
  refine ⟨bs, hbs, fun hlen trail => ?_⟩
  obtain ⟨m, hm, hctx⟩ := hdec hlen trail
  simp only [decObserve, hm, hctx.observe_eq]

/-- **typed_value_roundtrip.** The bridge to C04 / C13 that `decode_encode`
rests on: for every well-formed value of the 20 typed kinds and BOTH ASN widths
(on a two-octet session the AS numbers of AS_PATH and AGGREGATOR must fit two
octets), the value octets of the reference encoder are accepted by the type's
`validate` and the type's `parse` returns the value (`normW`: with the segment
hops of a path stored in the width they were read in, which `==` ignores). -/
theorem typed_value_roundtrip (four : Bool) (a : TypedAttr) (hw : WfAttrW a = true)
    (hn : four = false → narrowOk a = true) :
    ∃ v, typedValue four a = .ok v ∧ validate a.code four v = some true ∧
      parseValue a.code four v = .ok (normW four a) :=
  typed_spec four a hw hn

/-- a hop path and the segment list `to_as_path` / `try_to_asn16_path` make of it
are the same content: the two forms of an AS path attribute in `AttrC` have the
same octets and the same expected hops (C13's `compose_spec`) -/
theorem hop_path_is_segments (four : Bool) (h : AsPath.HopPath) (hw : AsPath.WfHops h = true)
    (hn : four = false → AsPath.allSmall (AsPath.asnsOf h) = true) :
    ∃ ss : List AsPath.Seg, (∀ s ∈ ss, s.wireOk four = true) ∧
      typedValue four (.asPath h) = .ok (encSegsW four ss) ∧
      hopsOfWire four ss = h.map (AsPath.Hop.norm four) := by
  obtain ⟨ss, h1, h2, h3⟩ := asPath_segs four h hw hn
  exact ⟨ss, h1, (encSegsW_eq four ss).symm ▸ h2, h3⟩

/-! ## what the decoder reports about an MP attribute of an UNSUPPORTED (AFI, SAFI) and about the
reserved octet

Each clause is a predicate on an `Observation`; the private lemmas show that `expected cfg c` has it (a reading
of the definition of `expected`), the public theorems state it of `decObserve cfg (encoding ++ trail)` - the
DECODER model run on the encoder's octets - through `decode_encode`. -/

/-- what is reported when the (first) MP_REACH_NLRI is of an (AFI, SAFI) outside the 13 families -/
def ReachUReport (cfg : Cfg) (c : TContent) (fl : UInt8) (k : Nat × Nat) (nh : Bytes) (rsv : UInt8) (body : Bytes)
    (o : Observation) : Prop :=
  o.mpAnn = .ok (some (.unsupported k.1 k.2, ([], true))) ∧
  o.mpNextHop = .err ∧
  (∀ k', k' ≠ (1, 1) → o.findNextHop k' = .err) ∧
  (∀ g, (g ≠ .v4u ∨ c.ann = []) → o.typedAnn g = .ok none) ∧
  o.announcements = .ok o.convAnn ∧
  o.annVec = .ok (anyNlris .v4u (cfg.rx (1, 1)) c.ann) ∧
  o.afiSafis = .ok (if c.wd ≠ [] then some (.known .v4u (cfg.rx (1, 1))) else none,
    if c.ann ≠ [] then some (.known .v4u (cfg.rx (1, 1))) else none,
    (c.unreachOf cfg).map (·.1), some (.unsupported k.1 k.2)) ∧
  Outcome.ok (Wire.unimplemented fl.toNat 14 (mpReachValue k nh rsv body)) ∈ o.attrs.1 ∧
  Outcome.ok (Decoded.unimplemented fl.toNat 14 (mpReachValue k nh rsv body)) ∈ o.owned

/-- what is reported when the (first) MP_UNREACH_NLRI is of an unsupported (AFI, SAFI) -/
def UnreachUReport (cfg : Cfg) (c : TContent) (fl : UInt8) (k : Nat × Nat) (body : Bytes) (o : Observation) : Prop :=
  o.mpWd = .ok (some (.unsupported k.1 k.2, ([], true))) ∧
  (∀ g, (g ≠ .v4u ∨ c.wd = []) → o.typedWd g = .ok none) ∧
  o.withdrawals = .ok o.convWd ∧
  o.afiSafis = .ok (if c.wd ≠ [] then some (.known .v4u (cfg.rx (1, 1))) else none,
    if c.ann ≠ [] then some (.known .v4u (cfg.rx (1, 1))) else none,
    some (.unsupported k.1 k.2), (c.reachOf cfg).map (·.1)) ∧
  (body ≠ [] → o.isEor = .ok none) ∧
  (body = [] → c.wd = [] → c.ann = [] → c.find 14 = none → o.isEor = .ok (some k)) ∧
  Outcome.ok (Decoded.unimplemented fl.toNat 15 (mpUnreachValue k body)) ∈ o.owned

private theorem typedSpec_unsupported {l : List (Nat × Pfx)} {ap : Bool} {ty : Nat × Nat} {g : Fam}
    (hg : g ≠ .v4u ∨ l = []) :
    typedSpec (anyNlris .v4u ap l) (some (.unsupported ty.1 ty.2, [])) g = .ok none := by
  unfold typedSpec
  rw [if_neg]
  rintro ⟨h1, h2⟩
  exact hg.elim (· h1) fun h => h2 ((anyNlris_nil_iff .v4u ap l).mpr h)

private theorem expected_unsupported_reach (cfg : Cfg) (c : TContent) (fl : UInt8) (k : Nat × Nat) (nh : Bytes)
    (rsv : UInt8) (body : Bytes) (hf : c.find 14 = some (.reachU fl k nh rsv body)) :
    ReachUReport cfg c fl k nh rsv body (expected cfg c) := by
  have hr : c.reachOf cfg = some (.unsupported k.1 k.2, []) := by rw [TContent.reachOf, hf]
  have hn : c.reachNh = some (k, .err) := by rw [TContent.reachNh, hf]
  simp only [ReachUReport, expected, hr, hn]
  refine ⟨rfl, trivial, fun k' hk' => ?_, fun g => typedSpec_unsupported, rfl,
    congrArg Outcome.ok (List.append_nil _), rfl, ?_, ?_⟩
  · simp only [findNextHopSpec, if_neg hk']
  · exact List.mem_map.mpr ⟨_, List.mem_map.mpr ⟨_, (TContent.find_mem hf).1, rfl⟩, rfl⟩
  · exact List.mem_map.mpr ⟨_, (TContent.find_mem hf).1, rfl⟩

private theorem expected_unsupported_unreach (cfg : Cfg) (c : TContent) (fl : UInt8) (k : Nat × Nat) (body : Bytes)
    (hf : c.find 15 = some (.unreachU fl k body)) :
    UnreachUReport cfg c fl k body (expected cfg c) := by
  have hu : c.unreachOf cfg = some (.unsupported k.1 k.2, []) := by rw [TContent.unreachOf, hf]
  have he : c.unreachEmpty = body.isEmpty := by rw [TContent.unreachEmpty, hf]
  have hne : ¬ (c.wd = [] ∧ c.attrs = [] ∧ c.ann = []) := fun h => by
    have := (TContent.find_mem hf).1; rw [h.2.1] at this; cases this
  simp only [UnreachUReport, expected, hu, he, if_neg hne]
  refine ⟨rfl, fun g => typedSpec_unsupported, rfl, rfl, fun hb => ?_, fun hb hw ha h14 => ?_, ?_⟩
  · rw [if_neg]
    exact fun h => hb (List.isEmpty_iff.mp h.1)
  · rw [if_pos ⟨List.isEmpty_iff.mpr hb, hw, ha, h14⟩]; rfl
  · exact List.mem_map.mpr ⟨_, (TContent.find_mem hf).1, rfl⟩

/-- **unsupported_reach_reported** (about the DECODER: `decObserve` on the encoder's octets, any trailing octets).
When the (first) MP_REACH_NLRI of a well-formed content is of an (AFI, SAFI) outside the 13 families – next-hop
field `nh`, reserved octet `rsv`, then `body`, all arbitrary – the decoder model accepts the encoding and reports:
`mp_announcements()` is an iterator of type `Unsupported(afi, safi)` that yields NOTHING, whatever `body` holds;
`mp_next_hop()` is an `Err` and so is `find_next_hop(k')` for every `k'` but IPv4 unicast;
`typed_announcements::<T>()` is `Ok(None)` for every MP family's `T`; `announcements()` / `announcements_vec()`
hold the conventional NLRI only; the fourth `afi_safis` slot names the unsupported type; and the attribute itself is
among `path_attributes()` / `to_owned()` as an UNIMPLEMENTED attribute with flags as sent, type 14 and the value
octets as sent – the reserved octet included.  NOTE on the property: C01 speaks of SUPPORTED families; of these
clauses only "accepted", "no NLRI item", the value octets and `is_eor` are demanded by the property (and by the
harness oracle) – `Err` of `mp_next_hop`, the iterator type and the `afi_safis` slot are how the code behaves today,
proved of the model and held against the code by the correspondence run only. -/
theorem unsupported_reach_reported (cfg : Cfg) (c : TContent) (hw : WfContent cfg c) (fl : UInt8) (k : Nat × Nat)
    (nh : Bytes) (rsv : UInt8) (body : Bytes) (hf : c.find 14 = some (.reachU fl k nh rsv body)) :
    ∃ bs, encUpdateT cfg c = .ok bs ∧ (bs.length < 65536 → ∀ trail, ∃ o,
      decObserve cfg (bs ++ trail) = .ok o ∧ ReachUReport cfg c fl k nh rsv body o) := by
  obtain ⟨bs, hbs, hdec⟩ := decode_encode cfg c hw
  exact ⟨bs, hbs, fun hl trail => ⟨_, hdec hl trail, expected_unsupported_reach cfg c fl k nh rsv body hf⟩⟩

/-- **unsupported_unreach_reported** (about the DECODER, as above). The same for MP_UNREACH_NLRI of an unsupported
(AFI, SAFI) holding the octets `body`: `mp_withdrawals()` is an iterator of type `Unsupported(afi, safi)` without
items; `typed_withdrawals::<T>()` is `Ok(None)`; `withdrawals()` holds the conventional NLRI only; and `is_eor()` –
judged on the OCTETS, not on the iterator (F22b) – names exactly this (AFI, SAFI) when `body` is empty and the
message carries nothing else that holds NLRI (no conventional section, no MP_REACH_NLRI), and is `None` as soon as
`body` has one octet. -/
theorem unsupported_unreach_reported (cfg : Cfg) (c : TContent) (hw : WfContent cfg c) (fl : UInt8) (k : Nat × Nat)
    (body : Bytes) (hf : c.find 15 = some (.unreachU fl k body)) :
    ∃ bs, encUpdateT cfg c = .ok bs ∧ (bs.length < 65536 → ∀ trail, ∃ o,
      decObserve cfg (bs ++ trail) = .ok o ∧ UnreachUReport cfg c fl k body o) := by
  obtain ⟨bs, hbs, hdec⟩ := decode_encode cfg c hw
  exact ⟨bs, hbs, fun hl trail => ⟨_, hdec hl trail, expected_unsupported_unreach cfg c fl k body hf⟩⟩

/-- the same attribute with the reserved octet of an MP_REACH_NLRI (of a supported family or not) replaced -/
def setRsvA (r : UInt8) : AttrC → AttrC
  | .reach fl f nh _ nlri => .reach fl f nh r nlri
  | .reachU fl k nh _ body => .reachU fl k nh r body
  | a => a

/-- the same content with every reserved octet replaced by `r` -/
def setRsv (r : UInt8) (c : TContent) : TContent := { c with attrs := c.attrs.map (setRsvA r) }

/-- two observations agree in EVERY field but the two that present the attributes' value octets (`attrs` =
`path_attributes()`, `owned` = `to_owned()` of each) -/
def SameButAttrOctets (o o' : Observation) : Prop :=
  { o' with attrs := o.attrs, owned := o.owned } = o

private theorem setRsvA_code (r : UInt8) (a : AttrC) : (setRsvA r a).code = a.code := by
  cases a <;> rfl

private theorem setRsvA_fl (r : UInt8) (a : AttrC) : (setRsvA r a).fl = a.fl := by
  cases a <;> rfl

private theorem setRsvA_ownedT (cfg : Cfg) (r : UInt8) (a : AttrC) : (setRsvA r a).ownedT cfg = a.ownedT cfg := by
  cases a <;> rfl

private theorem setRsvA_hopsT (cfg : Cfg) (r : UInt8) (a : AttrC) : (setRsvA r a).hopsT cfg = a.hopsT cfg := by
  simp [AttrC.hopsT, setRsvA_ownedT]

private theorem setRsvA_valueLen (cfg : Cfg) (r : UInt8) (a : AttrC) :
    ((setRsvA r a).valueD cfg).length = (a.valueD cfg).length := by
  cases a with
  | reach fl f nh rsv nlri =>
    simp only [setRsvA, AttrC.valueD, AttrC.value]
    cases encNlris f (cfg.rx (famCode f)) nlri <;> simp [mpReachValue]
  | reachU fl k nh rsv body => simp [setRsvA, AttrC.valueD, AttrC.value, mpReachValue]
  | _ => rfl

/-- an attribute that yields hops (an AS path) is not an MP attribute: replacing the reserved octet leaves it alone -/
private theorem setRsvA_of_hops (cfg : Cfg) (r : UInt8) (a : AttrC) (h : (a.hopsT cfg).isSome) : setRsvA r a = a := by
  cases a <;> first | rfl | cases h

private theorem find_setRsv (r : UInt8) (c : TContent) (k : Nat) :
    (setRsv r c).find k = (c.find k).map (setRsvA r) := by
  simp only [TContent.find, setRsv, List.find?_map]
  have : ((fun a : AttrC => a.code == k) ∘ setRsvA r) = (fun a => a.code == k) := by
    funext a; simp [setRsvA_code]
  rw [this]

private theorem typedOf_setRsv (r : UInt8) (c : TContent) (k : Nat) : (setRsv r c).typedOf k = c.typedOf k := by
  simp only [TContent.typedOf, find_setRsv]
  cases h : c.find k with
  | none => rfl
  | some a => cases a <;> rfl

private theorem recsOf_setRsv (r : UInt8) (c : TContent) (k : Nat) : (setRsv r c).recsOf k = c.recsOf k := by
  simp [TContent.recsOf, typedOf_setRsv]

private theorem reachOf_setRsv (cfg : Cfg) (r : UInt8) (c : TContent) : (setRsv r c).reachOf cfg = c.reachOf cfg := by
  simp only [TContent.reachOf, find_setRsv]
  cases h : c.find 14 with
  | none => rfl
  | some a => cases a <;> rfl

private theorem unreachOf_setRsv (cfg : Cfg) (r : UInt8) (c : TContent) :
    (setRsv r c).unreachOf cfg = c.unreachOf cfg := by
  simp only [TContent.unreachOf, find_setRsv]
  cases h : c.find 15 with
  | none => rfl
  | some a => cases a <;> rfl

private theorem reachNh_setRsv (r : UInt8) (c : TContent) : (setRsv r c).reachNh = c.reachNh := by
  simp only [TContent.reachNh, find_setRsv]
  cases h : c.find 14 with
  | none => rfl
  | some a => cases a <;> rfl

private theorem unreachEmpty_setRsv (r : UInt8) (c : TContent) : (setRsv r c).unreachEmpty = c.unreachEmpty := by
  simp only [TContent.unreachEmpty, find_setRsv]
  cases h : c.find 15 with
  | none => rfl
  | some a => cases a <;> rfl

private theorem pathOf_setRsv (cfg : Cfg) (r : UInt8) (c : TContent) (k : Nat) :
    ((setRsv r c).find k).bind (fun a => (a.hopsT cfg).map fun h => (a.valueD cfg, h)) =
      (c.find k).bind (fun a => (a.hopsT cfg).map fun h => (a.valueD cfg, h)) := by
  rw [find_setRsv]
  cases h : c.find k with
  | none => rfl
  | some a =>
    simp only [Option.map_some, Option.bind_some]
    cases hh : a.hopsT cfg with
    | none => simp [setRsvA_hopsT, hh]
    | some p => rw [setRsvA_of_hops cfg r a (by simp [hh])]; simp [hh]

private theorem encRaws_length_setRsv (cfg : Cfg) (r : UInt8) (l : List AttrC) :
    (encRaws ((l.map (setRsvA r)).map (AttrC.rawOf cfg))).length = (encRaws (l.map (AttrC.rawOf cfg))).length := by
  induction l with
  | nil => rfl
  | cons a t ih =>
    have h1 : (encRaw ((setRsvA r a).rawOf cfg)).length = (encRaw (a.rawOf cfg)).length := by
      have := setRsvA_valueLen cfg r a
      by_cases he : extBit a.fl = true <;> simp [encRaw, AttrC.rawOf, setRsvA_fl, he, this]
    simp only [encRaws, List.map_cons, List.flatten_cons, List.length_append] at ih ⊢
    omega

/-- `expected` does not look at the reserved octet outside the attributes' value octets -/
private theorem expected_reserved_octet (cfg : Cfg) (c : TContent) (r : UInt8) :
    SameButAttrOctets (expected cfg c) (expected cfg (setRsv r c)) := by
  have hnil : (setRsv r c).attrs = [] ↔ c.attrs = [] := by simp [setRsv]
  have hwd : (setRsv r c).wd = c.wd := rfl
  have hann : (setRsv r c).ann = c.ann := rfl
  have hlen := encRaws_length_setRsv cfg r c.attrs
  have hsome : ((setRsv r c).find 6).isSome = (c.find 6).isSome := by simp [find_setRsv]
  have h14 : (setRsv r c).find 14 = none ↔ c.find 14 = none := by simp [find_setRsv]
  have hattrs : (setRsv r c).attrs = c.attrs.map (setRsvA r) := rfl
  unfold SameButAttrOctets expected
  simp only [hwd, hann, reachOf_setRsv, unreachOf_setRsv, reachNh_setRsv, unreachEmpty_setRsv, typedOf_setRsv,
    recsOf_setRsv, pathOf_setRsv, hsome, h14, hattrs, hlen, List.map_eq_nil_iff]

/-- **reserved_octet_ignored** (about the DECODER). RFC 4760 3: the reserved octet of MP_REACH_NLRI "SHOULD be ignored
upon receipt".  Take a well-formed content `c` and the content `setRsv r c` that differs from it ONLY in the
reserved octet of its MP_REACH_NLRI attributes (of one of the 13 families or of an unsupported pair; `r`
arbitrary).  The decoder model, run on the two encodings (each followed by any octets), reports observations that
agree in EVERY field - lengths, conventional and MP NLRI with path ids, the chained / `_vec` / typed accessors,
`afi_safis`, `is_eor`, origin, AS paths, conventional and MP next hop, `find_next_hop` for every pair, MED ..
all community iterators - except the two that present the attributes' value octets themselves (`attrs`, `owned`),
where the octet is visible as sent (`unsupported_reach_reported` / `decode_encode`: value = `mpReachValue .. rsv ..`).
(`setRsv r c` is well-formed whenever `c` is; that is a hypothesis here, not proved separately.  Its encoding has
the same length: both observations report the same `length`.) -/
theorem reserved_octet_ignored (cfg : Cfg) (c : TContent) (r : UInt8) (hw : WfContent cfg c)
    (hw' : WfContent cfg (setRsv r c)) :
    ∃ bs bs', encUpdateT cfg c = .ok bs ∧ encUpdateT cfg (setRsv r c) = .ok bs' ∧
      (bs.length < 65536 → bs'.length < 65536 → ∀ trail trail', ∃ o o',
        decObserve cfg (bs ++ trail) = .ok o ∧ decObserve cfg (bs' ++ trail') = .ok o' ∧ SameButAttrOctets o o') := by
  obtain ⟨bs, hbs, hdec⟩ := decode_encode cfg c hw
  obtain ⟨bs', hbs', hdec'⟩ := decode_encode cfg (setRsv r c) hw'
  exact ⟨bs, bs', hbs, hbs', fun h h' trail trail' =>
    ⟨_, _, hdec h trail, hdec' h' trail', expected_reserved_octet cfg c r⟩⟩

/-- the per-field reading for one of the 13 families: the NLRI / next-hop accessors of a content whose first
MP_REACH_NLRI is `.reach fl f nh rsv nlri` do not mention `rsv` -/
theorem reserved_octet_fields (cfg : Cfg) (c : TContent) (hw : WfContent cfg c) (fl : UInt8) (f : Fam) (nh : Bytes)
    (rsv : UInt8) (nlri : List (Nat × f.Val)) (hf : c.find 14 = some (.reach fl f nh rsv nlri)) :
    ∃ bs, encUpdateT cfg c = .ok bs ∧ (bs.length < 65536 → ∀ trail, ∃ o, decObserve cfg (bs ++ trail) = .ok o ∧
      o.mpAnn = .ok (some (.known f (cfg.rx (famCode f)), okItems (anyNlris f (cfg.rx (famCode f)) nlri))) ∧
      o.mpNextHop = (match nhSpec f nh with | some x => .ok (some x) | none => .err) ∧
      (∀ x, nhSpec f nh = some x → o.findNextHop (famCode f) = .ok x)) := by
  obtain ⟨bs, hbs, hdec⟩ := decode_encode cfg c hw
  have hr : c.reachOf cfg = some (.known f (cfg.rx (famCode f)), anyNlris f (cfg.rx (famCode f)) nlri) := by
    rw [TContent.reachOf, hf]
  have hn : c.reachNh = some (famCode f, nhOf f nh) := by rw [TContent.reachNh, hf]
  refine ⟨bs, hbs, fun hl trail => ⟨_, hdec hl trail, ?_⟩⟩
  simp only [expected, hr, hn, nhOf]
  refine ⟨rfl, ?_, fun x hx => ?_⟩
  · cases nhSpec f nh <;> rfl
  · rw [hx]
    unfold findNextHopSpec
    by_cases h11 : famCode f = (1, 1) <;> simp only [h11, ↓reduceIte]

/-- **sections_decoded.** Whatever the three sections hold, as long as each is
acceptable on its own (the conventional NLRI validate under the session's IPv4
unicast ADD-PATH setting, the attributes are a sequence of complete TLVs with
well-formed MP attributes) and the PDU length fits its field, the framed
message is accepted – also with trailing octets after the announced length –
and the decoder's section ranges are exactly the three sections, the per-PDU
parse info is the session's. -/
theorem sections_decoded (cfg : Cfg) (wd attrs ann trail : Bytes) (reach unreach : Option (Nat × Nat))
    (hlen : 19 + 2 + wd.length + 2 + attrs.length + ann.length < 65536)
    (hwd : convValidate (cfg.rx (1, 1)) wd = .ok ())
    (hann : convValidate (cfg.rx (1, 1)) ann = .ok ())
    (hwalk : attrsWalk attrs.length attrs = .ok ())
    (hscan : mpScan attrs.length attrs none none = .ok (reach, unreach)) :
    parseUpdate cfg (frame wd attrs ann ++ trail) =
      .ok { body := be16 wd.length ++ (wd ++ (be16 attrs.length ++ (attrs ++ ann))),
            wd := wd, attrs := attrs, ann := ann, ppi := Ppi.ofCfg cfg reach unreach } := by
  apply Raw.sections_decoded <;> assumption

/-- **decode_encode_raw.** For every session configuration (ASN width, any
ADD-PATH map) and every well-formed content whose encoding fits the length
field (65535; the 4096 limit of RFC 4271 is not needed), also when octets
follow the announced length: the message is accepted, and the three lengths,
the conventional withdrawals and announcements with or without path ids, the
attribute sequence (flags, type codes, lengths, typed / invalid / unimplemented
kind and value octets), the ASN width and the per-section ADD-PATH flags the
accessors will use are exactly the content that was encoded.
The attributes are given by their value octets here; `decode_encode` is the
statement for typed contents and every accessor. -/
theorem decode_encode_raw (cfg : Cfg) (c : Content) (hw : WfUpdate cfg c) :
    ∃ bs, encUpdate cfg c = .ok bs ∧ (bs.length < 65536 → ∀ trail, ∃ m,
      parseUpdate cfg (bs ++ trail) = .ok m ∧
      m.length = bs.length ∧
      (∃ w a, encNlris .v4u (cfg.rx (1, 1)) c.wd = .ok w ∧ encNlris .v4u (cfg.rx (1, 1)) c.ann = .ok a ∧
        m.wd = w ∧ m.ann = a ∧ m.wdLen = w.length) ∧
      m.attrLen = (encRaws c.attrs).length ∧
      m.convWd = (reportNlris .v4u (cfg.rx (1, 1)) c.wd, true) ∧
      m.convAnn = (reportNlris .v4u (cfg.rx (1, 1)) c.ann, true) ∧
      m.pathAttributes = (c.attrs.map (reportAttr cfg.four), true) ∧
      m.attrs = encRaws c.attrs ∧
      m.ppi = Ppi.ofCfg cfg (lastMp 14 c.attrs none) (lastMp 15 c.attrs none)) := by
  apply Raw.decode_encode_partial <;> assumption

/-- **typed_value_reported.** The value octets a typed getter works on are the
value octets of the first attribute of its type in the encoded sequence,
provided that value obeys the type's length rule for the session's ASN width
(otherwise the attribute is surfaced as invalid and the getter answers `None`). -/
theorem typed_value_reported (m : Msg) (l : List RawAttr)
    (hpa : m.pathAttributes.1 = l.map (reportAttr m.ppi.four)) (code : Nat) (a : RawAttr)
    (hfirst : firstWith code l = some a) (hcode : a.tc.toNat = code) :
    m.typedValue code = (if validate code m.ppi.four a.v = some true then some a.v else none) := by
  apply Raw.typed_value_reported <;> assumption

/-- **getters_reported.** ORIGIN, MULTI_EXIT_DISC, LOCAL_PREF, NEXT_HOP,
ATOMIC_AGGREGATE and the four community flavours: the getter returns the encoded
value (as number / address octets / the sequence of fixed-size records). -/
theorem getters_reported (m : Msg) (l : List RawAttr)
    (hpa : m.pathAttributes.1 = l.map (reportAttr m.ppi.four)) :
    (∀ a b, firstWith 1 l = some a → a.tc.toNat = 1 → a.v = [b] → m.origin = .ok (some b.toNat)) ∧
    (∀ a n, firstWith 4 l = some a → a.tc.toNat = 4 → n < 4294967296 → a.v = be32 n → m.med = .ok (some n)) ∧
    (∀ a n, firstWith 5 l = some a → a.tc.toNat = 5 → n < 4294967296 → a.v = be32 n →
      m.localPref = .ok (some n)) ∧
    (∀ a, firstWith 3 l = some a → a.tc.toNat = 3 → a.v.length = 4 → m.convNextHop = .ok (some (.unicast a.v))) ∧
    (m.isAtomicAggregate = (firstWith 6 l).isSome) ∧
    (∀ code k a, (code, k) ∈ [(8, 4), (16, 8), (25, 20), (32, 12)] → firstWith code l = some a →
      a.tc.toNat = code → a.v.length % k = 0 → m.comms code k = some (commItems k a.v)) := by
  apply Raw.getters_reported <;> assumption

/-- the community iterators cut the value into its records: for a value that
is the concatenation of `k`-octet records they yield exactly those records -/
theorem comm_records (k : Nat) (hk : 0 < k) : ∀ (recs : List Bytes), (∀ r ∈ recs, r.length = k) →
    ∀ f, recs.length ≤ f → collect (commNext k) f recs.flatten = (recs.map Outcome.ok, true) :=
  Raw.comm_records k hk

/-- **mp_reach_reported.** If the first MP_REACH_NLRI attribute of the message
was built for family `f` with next hop field `nh` and the NLRI list `nlri`
(encoded with path ids exactly when the message's MP_REACH ADD-PATH flag is
set), then `mp_announcements()` is an iterator of that family's type over
exactly the NLRI octets and yields exactly `nlri`, every item `Ok`; the same
holds for `typed_announcements` of that type when there is no conventional NLRI
or the family is not IPv4 unicast. All 13 families. -/
theorem mp_reach_reported (m : Msg) (l : List RawAttr) (hm : m.attrs = encRaws l)
    (hwf : ∀ a ∈ l, a.wf = true) (a : RawAttr) (hfirst : firstWith 14 l = some a)
    (f : Fam) (nh : Bytes) (hnh : nh.length < 256) (nlri : List (Nat × f.Val))
    (hw : NlrisWf f m.ppi.mpReach nlri) :
    ∃ b, encNlris f m.ppi.mpReach nlri = .ok b ∧ (a.v = reachValue f nh b →
      m.mpAnn = .ok (some (.known f m.ppi.mpReach, b)) ∧
      enumItems (.known f m.ppi.mpReach) b = (reportNlris f m.ppi.mpReach nlri, true) ∧
      ((f ≠ .v4u ∨ m.ann = []) →
        m.typedAnn f m.ppi.mpReach = .ok (some (reportNlris f m.ppi.mpReach nlri, true)))) := by
  apply Raw.mp_reach_reported <;> assumption

/-- **mp_unreach_reported.** The same for MP_UNREACH_NLRI / `mp_withdrawals()` /
`typed_withdrawals`. -/
theorem mp_unreach_reported (m : Msg) (l : List RawAttr) (hm : m.attrs = encRaws l)
    (hwf : ∀ a ∈ l, a.wf = true) (a : RawAttr) (hfirst : firstWith 15 l = some a)
    (f : Fam) (nlri : List (Nat × f.Val)) (hw : NlrisWf f m.ppi.mpUnreach nlri) :
    ∃ b, encNlris f m.ppi.mpUnreach nlri = .ok b ∧ (a.v = unreachValue f b →
      m.mpWd = .ok (some (.known f m.ppi.mpUnreach, b)) ∧
      enumItems (.known f m.ppi.mpUnreach) b = (reportNlris f m.ppi.mpUnreach nlri, true) ∧
      ((f ≠ .v4u ∨ m.wd = []) →
        m.typedWd f m.ppi.mpUnreach = .ok (some (reportNlris f m.ppi.mpUnreach nlri, true)))) := by
  apply Raw.mp_unreach_reported <;> assumption

/-- the ADD-PATH flag of an MP section is the session's setting for the family
of the (only) attribute of that type: with `decode_encode_raw` this closes
the loop between the encoder's and the decoder's use of path ids -/
theorem mp_flag_of_unique (code : Nat) (l : List RawAttr) (a : RawAttr)
    (huniq : ∀ x ∈ l, x.tc.toNat = code → x = a) (hfirst : firstWith code l = some a) :
    lastMp code l none = (afiSafi a.v).map (·.1) :=
  Raw.mp_flag_of_unique code l a huniq hfirst

/-- **next_hop_reported.** For every family and every legal next-hop length the
next hop `mp_next_hop()` parses out of an encoded MP_REACH_NLRI value is the
content of the next-hop field (addresses, route distinguisher). -/
theorem next_hop_reported (f : Fam) (nh rest : Bytes) (x : NextHop) (hn : nh.length < 256)
    (hs : nhSpec f nh = some x) : nhParse (some f) (UInt8.ofNat nh.length :: (nh ++ rest)) = .ok x :=
  Raw.next_hop_reported f nh rest x hn hs

/-- **eor_iff.** `is_eor()` answers `Some(family)` in exactly two situations:
the 23-octet UPDATE (IPv4 unicast), or a message without conventional sections
and without an MP_REACH_NLRI attribute whose (first) MP_UNREACH_NLRI – of the
family the answer names, one of the 13 or not – holds no octet after AFI/SAFI. -/
theorem eor_iff (m : Msg) (k : Nat × Nat) :
    m.isEor = .ok (some k) ↔
      (m.length = 23 ∧ k = (1, 1)) ∨
      (m.length ≠ 23 ∧ m.wd = [] ∧ m.ann = [] ∧ m.hasMpNlri = .ok false ∧
        ∃ ty, m.mpWd = .ok (some (ty, [])) ∧ k = ty.afiSafi) :=
  Raw.eor_iff m k

/-- **eor_no_nlri.** A message that carries NLRI is never reported as
End-of-RIB, where "carries NLRI" is read off the OCTETS of the message: a
non-empty conventional section (withdrawn routes or NLRI), an MP_REACH_NLRI
attribute, or an MP_UNREACH_NLRI with at least one octet of withdrawn routes
after AFI/SAFI – of ANY address family, also one routecore has no NLRI type for
(whose iterator yields nothing whatever the attribute holds; before the repair
F22b such a message was reported as End-of-RIB). For every message, whatever its
bytes, under every configuration. -/
theorem eor_no_nlri (m : Msg) (k : Nat × Nat)
    (h : m.wd ≠ [] ∨ m.ann ≠ [] ∨ m.hasMpNlri = .ok true ∨
      ∃ ty bs, m.mpWd = .ok (some (ty, bs)) ∧ bs ≠ []) :
    m.isEor ≠ .ok (some k) :=
  Raw.eor_no_nlri m k h

/-- the same with "carries NLRI" read off the iterator: an MP_UNREACH_NLRI whose
iterator yields an item (only a supported family's does) holds octets -/
theorem eor_no_nlri_items (m : Msg) (k : Nat × Nat) (ty : NlriTy) (bs : Bytes)
    (hm : m.mpWd = .ok (some (ty, bs))) (hi : (enumItems ty bs).1 ≠ []) : m.isEor ≠ .ok (some k) :=
  Raw.eor_no_nlri_items m k ty bs hm hi

/-- the hypothesis of `eor_no_nlri` is met by the message that showed the defect
(MP_UNREACH_NLRI of AFI 1 / SAFI 5, an unsupported family, withdrawing one /24):
it is accepted, its withdrawn-routes field is `18 ..`, and it is no End-of-RIB -/
example : (match parseUpdate ⟨true, []⟩ ((List.replicate 16 0xff) ++
      [0x00, 0x1e, 0x02, 0x00, 0x00, 0x00, 0x07, 0x80, 0x0f, 0x04, 0x00, 0x01, 0x05, 0x18]) with
    | .ok m => some (m.mpWd, m.isEor)
    | _ => none) = some (.ok (some (.unsupported 1 5, [0x18])), .ok none) := by decide +kernel

/-- **eor_marker_recognised.** The End-of-RIB marker of each of the 13 families
(an UPDATE holding nothing but an MP_UNREACH_NLRI with AFI/SAFI and no
withdrawn routes, RFC 4724) is reported as End-of-RIB of exactly that family,
under every session configuration (the empty UPDATE, IPv4 unicast's marker, is
the first case of `eor_iff`). -/
theorem eor_marker_recognised (cfg : Cfg) (f : Fam) (fl : UInt8) (trail : Bytes)
    (hwf : (⟨fl, 15, unreachValue f []⟩ : RawAttr).wf = true) :
    ∃ m, parseUpdate cfg (frame [] (encRaws [⟨fl, 15, unreachValue f []⟩]) [] ++ trail) = .ok m ∧
      m.isEor = .ok (some (famCode f)) := by
  apply Raw.eor_marker_recognised <;> assumption

/-- non-vacuity: a mixed message – a conventional withdrawal and announcement,
an extended-length AS_PATH, an MP_REACH_NLRI for IPv6 unicast with one
ADD-PATH NLRI 2001:db8::/32 – is well-formed in a four-octet session with
ADD-PATH for IPv6 unicast -/
example : WfUpdate ⟨true, [((2, 1), .both)]⟩
    { wd := [(0, ⟨false, 8, [10, 0, 0, 0]⟩)],
      attrs := [⟨0x50, 2, [2, 1, 0, 0, 0xfd, 0xe8]⟩,
                ⟨0x80, 14, reachValue .v6u (List.replicate 16 1) [0, 0, 0, 7, 32, 0x20, 0x01, 0x0d, 0xb8]⟩],
      ann := [(0, ⟨false, 24, [192, 0, 2, 0]⟩)] } := by
  have hrx : (⟨true, [((2, 1), .both)]⟩ : Cfg).rx (1, 1) = false := by decide
  refine ⟨?_, ?_, ?_, ?_⟩
  · rw [hrx]; simp only [NlrisWf, Bool.false_eq_true, ↓reduceIte]; decide
  · rw [hrx]; simp only [NlrisWf, Bool.false_eq_true, ↓reduceIte]; decide
  · decide
  · intro a ha
    simp only [List.mem_cons, List.not_mem_nil, or_false] at ha
    rcases ha with rfl | rfl
    · exact ⟨by decide, by decide⟩
    · exact ⟨fun _ => ⟨by decide, by decide⟩, by decide⟩

/-- ... and the NLRI list of that MP_REACH_NLRI is a well-formed ADD-PATH list -/
example : NlrisWf .v6u true [(7, ⟨true, 32, [0x20, 0x01, 0x0d, 0xb8, 0, 0, 0, 0, 0, 0, 0, 0, 0, 0, 0, 0]⟩)] := by
  simp only [NlrisWf, ↓reduceIte]; decide

example : nhSpec .v6u (List.replicate 32 1) = some (.ll (List.replicate 16 1) (List.replicate 16 1)) := by decide

/-- a four-octet session with ADD-PATH for IPv6 unicast -/
def exCfg : Cfg := ⟨true, [((2, 1), .both)]⟩

/-- a mixed message: a conventional withdrawal and announcement, ORIGIN, an
AS_PATH in the extended-length encoding (flags 0x50), an AGGREGATOR, standard
communities, an attribute of unrecognised type 99, MP_REACH_NLRI for IPv6
unicast with a link-local next-hop pair, a NON-ZERO reserved octet (0x55) and
one ADD-PATH NLRI (path id 7, 2001:db8::/32), MP_UNREACH_NLRI for IPv6 unicast with one ADD-PATH NLRI -/
def exContent : TContent where
  wd := [(0, ⟨false, 8, [10, 0, 0, 0]⟩)]
  attrs := [
    .typed 0x40 (.origin 0),
    .typed 0x50 (.asPath [.asn 65000, .asn 70000, .seg ⟨1, true, [1, 2]⟩]),
    .typed 0xc0 (.aggregator 70000 0xc0000201),
    .typed 0xc0 (.communities ⟨[0xfde80001, 0xffffff01], 8, false⟩),
    .raw 0xe0 99 [1, 2, 3],
    .reach 0x90 .v6u (List.replicate 32 1) 0x55
      [(7, ⟨true, 32, [0x20, 0x01, 0x0d, 0xb8, 0, 0, 0, 0, 0, 0, 0, 0, 0, 0, 0, 0]⟩)],
    .unreach 0x80 .v6u [(9, ⟨true, 0, [0, 0, 0, 0, 0, 0, 0, 0, 0, 0, 0, 0, 0, 0, 0, 0]⟩)]]
  ann := [(0, ⟨false, 24, [192, 0, 2, 0]⟩)]

private theorem exRx11 : exCfg.rx (1, 1) = false := by decide
private theorem exRx21 : exCfg.rx (famCode .v6u) = true := by decide

/-- ... it is well-formed -/
example : WfContent exCfg exContent := by
  refine ⟨?_, ?_, ?_, ?_⟩
  · rw [exRx11]; simp only [NlrisWf, Bool.false_eq_true, ↓reduceIte]; decide
  · rw [exRx11]; simp only [NlrisWf, Bool.false_eq_true, ↓reduceIte]; decide
  · intro a ha
    simp only [exContent, List.mem_cons, List.not_mem_nil, or_false] at ha
    rcases ha with rfl | rfl | rfl | rfl | rfl | rfl | rfl
    · exact ⟨⟨by decide, by decide⟩, by decide⟩
    · exact ⟨⟨by decide, by decide⟩, by decide⟩
    · exact ⟨⟨by decide, by decide⟩, by decide⟩
    · exact ⟨⟨by decide, by decide⟩, by decide⟩
    · exact ⟨⟨by decide, by decide, by decide⟩, by decide⟩
    · refine ⟨⟨?_, by decide, by decide⟩, by decide⟩
      rw [exRx21]; simp only [NlrisWf, ↓reduceIte]; decide
    · refine ⟨?_, by decide⟩
      show NlrisWf .v6u (exCfg.rx (famCode .v6u)) _
      rw [exRx21]; simp only [NlrisWf, ↓reduceIte]; decide
  · exact mpUnique_of_pairwise _ (by decide)

/-- ... its encoding is 146 octets -/
example : (encUpdateT exCfg exContent).toOption.map List.length = some 146 := by decide +kernel

/-- ... and some of what `expected` says about it: AS_PATH octets and hops, the
aggregator, the four `afi_safis` slots, `find_next_hop`, `all_communities` -/
example : (expected exCfg exContent).aspath =
    .ok (some ([2, 2, 0, 0, 0xfd, 0xe8, 0, 1, 0x11, 0x70, 1, 2, 0, 0, 0, 1, 0, 0, 0, 2],
      [.asn 65000, .asn 70000, .seg ⟨1, true, [1, 2]⟩])) := by decide
example : (expected exCfg exContent).aggregator = .ok (some (70000, [0xc0, 0, 2, 1])) := by decide
example : (expected exCfg exContent).afiSafis =
    .ok (some (.known .v4u false), some (.known .v4u false), some (.known .v6u true), some (.known .v6u true)) := by
  decide
example : (expected exCfg exContent).findNextHop (2, 1) =
    .ok (.ll (List.replicate 16 1) (List.replicate 16 1)) := by decide
example : (expected exCfg exContent).findNextHop (1, 1) = .err := by decide
example : (expected exCfg exContent).allCommunities = .ok (some [[0xfd, 0xe8, 0, 1], [0xff, 0xff, 0xff, 1]]) := by
  decide
example : (expected exCfg exContent).isEor = .ok none := by decide

/-- MP attributes of an UNSUPPORTED (AFI, SAFI) (1 / 5) in a two-octet session that
was configured with ADD-PATH for that very pair: ORIGIN, an MP_REACH_NLRI with a
three-octet next-hop field, reserved octet 0x7f and two opaque octets, an
MP_UNREACH_NLRI with one opaque octet; and the bare End-of-RIB shape of that pair -/
def exCfgU : Cfg := ⟨false, [((1, 5), .both)]⟩
def exContentU : TContent where
  wd := []
  attrs := [.typed 0x40 (.origin 2), .reachU 0x80 (1, 5) [1, 2, 3] 0x7f [0xde, 0xad], .unreachU 0x90 (1, 5) [0x18]]
  ann := [(0, ⟨false, 24, [192, 0, 2, 0]⟩)]
def exEorU : TContent := ⟨[], [.unreachU 0x80 (1, 5) []], []⟩

private theorem wfU (c : TContent) (hwd : c.wd = []) (hann : ∀ x ∈ c.ann, (codec .v4u).wf x.2 = true)
    (hat : ∀ a ∈ c.attrs, WfAttrC exCfgU a)
    (hu : ∀ a ∈ c.attrs, ∀ b ∈ c.attrs, a.code = b.code → (a.code = 14 ∨ a.code = 15) → a = b) :
    WfContent exCfgU c := by
  have hrx : exCfgU.rx (1, 1) = false := by decide
  refine ⟨?_, ?_, hat, hu⟩
  · rw [hrx, hwd]; simp [NlrisWf]
  · rw [hrx]; simpa [NlrisWf] using hann

example : WfContent exCfgU exContentU := by
  refine wfU _ rfl (by decide) ?_ ?_
  · intro a ha
    simp only [exContentU, List.mem_cons, List.not_mem_nil, or_false] at ha
    rcases ha with rfl | rfl | rfl
    · exact ⟨⟨by decide, by decide⟩, by decide⟩
    · exact ⟨⟨by decide, by decide, by decide, by decide⟩, by decide⟩
    · exact ⟨⟨by decide, by decide, by decide⟩, by decide⟩
  · exact mpUnique_of_pairwise _ (by decide)

/-- the hypotheses of `unsupported_reach_reported` / `unsupported_unreach_reported` / `reserved_octet_ignored` hold
of `exContentU`: its first attribute 14 / 15 are the unsupported forms, and the content with the reserved octet
0x7f replaced by 0 is well-formed too (and a different content) -/
example : exContentU.find 14 = some (.reachU 0x80 (1, 5) [1, 2, 3] 0x7f [0xde, 0xad]) := by rfl
example : exContentU.find 15 = some (.unreachU 0x90 (1, 5) [0x18]) := by rfl
example : (setRsv 0 exContentU).attrs =
    [.typed 0x40 (.origin 2), .reachU 0x80 (1, 5) [1, 2, 3] 0 [0xde, 0xad], .unreachU 0x90 (1, 5) [0x18]] := by rfl
example : WfContent exCfgU (setRsv 0 exContentU) := by
  refine wfU _ rfl (by decide) ?_ ?_
  · intro a ha
    simp only [setRsv, setRsvA, exContentU, List.map_cons, List.map_nil, List.mem_cons, List.not_mem_nil, or_false] at ha
    rcases ha with rfl | rfl | rfl
    · exact ⟨⟨by decide, by decide⟩, by decide⟩
    · exact ⟨⟨by decide, by decide, by decide, by decide⟩, by decide⟩
    · exact ⟨⟨by decide, by decide, by decide⟩, by decide⟩
  · exact mpUnique_of_pairwise _ (by decide)

example : WfContent exCfgU exEorU := by
  refine wfU _ rfl (by decide) ?_ ?_
  · intro a ha
    simp only [exEorU, List.mem_cons, List.not_mem_nil, or_false] at ha
    subst ha
    exact ⟨⟨by decide, by decide, by decide⟩, by decide⟩
  · exact mpUnique_of_pairwise _ (by decide)

/-- ... what `expected` says about them (and, by `decode_encode`, the decoder of
their encodings): no NLRI item, no next hop, the conventional next hop is none
either, not an End-of-RIB – and the bare MP_UNREACH_NLRI is the End-of-RIB of
(1, 5), of no other family -/
example : (expected exCfgU exContentU).mpAnn = .ok (some (.unsupported 1 5, ([], true))) := by rfl
example : (expected exCfgU exContentU).mpWd = .ok (some (.unsupported 1 5, ([], true))) := by rfl
example : (expected exCfgU exContentU).mpNextHop = .err := by decide
example : (expected exCfgU exContentU).isEor = .ok none := by decide
example : (expected exCfgU exContentU).owned =
    [.ok (.typed (.origin 2)), .ok (.unimplemented 0x80 14 [0, 1, 5, 3, 1, 2, 3, 0x7f, 0xde, 0xad]),
     .ok (.unimplemented 0x90 15 [0, 1, 5, 0x18])] := by decide
example : (expected exCfgU exEorU).isEor = .ok (some (1, 5)) := by decide
/-- ... and the decoder model run on the encoding (a closed term, kernel-evaluated):
type of `mp_announcements()`, number of its items, "ended"; `mp_next_hop()` is an
error; `is_eor()`; `length()` -/
def exObsU : Option ((Option (NlriTy × Nat) × Bool) × (Outcome (Option (Nat × Nat)) × Nat)) :=
  match encUpdateT exCfgU exContentU with
  | .ok bs =>
    match decObserve exCfgU bs with
    | .ok o =>
      match o.mpAnn, o.mpNextHop with
      | .ok x, .err => some ((x.map fun p => (p.1, p.2.1.length), (x.map (·.2.2)).getD false), (o.isEor, o.length))
      | _, _ => none
    | _ => none
  | _ => none
example : exObsU = some ((some (.unsupported 1 5, 0), true), (.ok none, 52)) := by decide +kernel

/-- the same AS path on a two-octet session must fit two octets: AS 70000 does not -/
example : ¬ AttrC.kindOk ⟨false, []⟩ (.typed 0x40 (.asPath [.asn 70000])) := by
  intro h; exact absurd (h.2 rfl) (by decide)
example : AttrC.kindOk ⟨false, []⟩ (.typed 0x40 (.asPath [.asn 65000, .seg ⟨1, true, [1, 2]⟩])) :=
  ⟨by decide, fun _ => by decide⟩

end Rc.Thm.C01
