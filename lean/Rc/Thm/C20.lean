/-
C20 – A session timer never fires early, nor after it was stopped.

Theorems about `Rc/Model/Timer.lean` (src/bgp/fsm/timers.rs after fix F17: the `Timer` struct and the
interval task it spawns, small-step, observed after each operation has settled).

* REFINEMENT (`timer_refines_spec`): for EVERY operation history – inside the property's precondition or
  not, every interval, also 0 – what the awaits and probes of the modelled timer observe is what the
  abstract specification `Rc.Timer.spec` says (a stream of due times handed out in order, never early,
  nothing lost or merged; stop / start discard what is outstanding; reset re-arms one interval from now).
* SAFETY (`no_early_tick`, `no_tick_after_stop`): corollaries, under the precondition.
* LIVENESS under the controlled clock (`tick_exactly_at_deadline`, `kth_tick_at_k_intervals`).
* the corner cases `reset` of a stopped timer, `start` of a running one, `stop` twice, interval 0.
-/
import Rc.Model.Timer

namespace Rc.Thm.C20
open Rc Rc.Timer

/-- "the later of the last start and the last reset" (0 when neither happened yet) -/
def armedAt (lastStart lastReset : Option Nat) : Nat := max (lastStart.getD 0) (lastReset.getD 0)

/-! ### the representation of a specification state by the timer and its task -/

/-- the interval task, as a function of the specification state: it waits for the first tick that is not
yet due, or is blocked sending the second-oldest outstanding tick -/
def shapeT (a : Spec) : Task :=
  match a.due with
  | none => .dead
  | some t =>
    match a.stale with
    | some _ => if t ≤ a.now then .sending t (t + a.i) else .waiting t
    | none =>
      if a.now < t then .waiting t
      else if a.now < t + a.i then .waiting (t + a.i)
      else .sending (t + a.i) (t + a.i + a.i)

/-- the capacity-1 tick channel holds the oldest outstanding tick -/
def shapeQ (a : Spec) : Option Nat :=
  match a.due with
  | none => none
  | some t =>
    match a.stale with
    | some v => some v
    | none => if a.now < t then none else some t

structure SInv (a : Spec) : Prop where
  pos : ∀ t, a.due = some t → 0 < a.i
  stale : a.due = none → a.stale = none
  started : ∀ t, a.due = some t → a.lastStart.isSome = true

/-- the model state that represents a specification state (`es` = `everStarted`) -/
def rep (a : Spec) (es : Bool) : State :=
  { interval := a.i, now := a.now, task := shapeT a, queue := shapeQ a, resetPending := false,
    everStarted := es, lastStart := a.lastStart, lastReset := a.lastReset, stopped := a.stopped }

/-- `everStarted` (`reset_send.is_some()`) is the ghost "there was a start" -/
private abbrev stateOf (a : Spec) : State := rep a a.lastStart.isSome

/-- on ONE form of the state: unfold the model and the specification, let `grind` compare the branches -/
local macro "tmr" : tactic => `(tactic|
  (simp [rep, shapeT, shapeQ, stepT, Spec.step, Spec.call, Spec.calls, Spec.await, Spec.out2, call, callStart, callStop,
     callReset, Timer.await, clock, settle, pollLoop, alive, breaks, breaksAt, Spec.breaks,
     Spec.breaksAt, *] <;> grind))

local macro "tmr_ops" op:ident : tactic => `(tactic|
  (cases $op:ident with
   | advThen d c => cases c <;> tmr
   | burst2 c1 c2 => cases c1 <;> cases c2 <;> tmr
   | burst3 c1 c2 c3 => cases c1 <;> cases c2 <;> cases c3 <;> tmr
   | _ => tmr))

/-- the six settled forms of the timer, one tactic per form -/
local macro "tmr_forms" a:ident op:ident : tactic => `(tactic|
  (obtain ⟨p1, p2⟩ := ‹SInv $a›
   rcases $a:ident with ⟨ai, anow, adue, astale, als, alr, ast⟩
   simp only at p1 p2
   cases adue with
   | none =>
     have := p2 rfl; subst this
     tmr_ops $op
   | some t =>
     have hp := p1 t rfl
     have hne : ai ≠ 0 := by omega
     cases astale with
     | some v =>
       by_cases hc : t ≤ anow
       · tmr_ops $op
       · tmr_ops $op
     | none =>
       by_cases hc : anow < t
       · tmr_ops $op
       · by_cases hc2 : anow < t + ai
         · tmr_ops $op
         · tmr_ops $op))

/-! ### the primitive steps on represented states -/

private theorem settle_clock (a : Spec) (d : Nat) (hI : SInv a) :
    settle (clock (stateOf a) d) = stateOf { a with now := a.now + d } := by
  obtain ⟨p1, p2, p3⟩ := hI
  obtain ⟨i, now, due, stale, ls, lr, st⟩ := a
  cases due <;> cases stale <;> tmr

/-- `start` and `stop` leave nothing for the task to do -/
private theorem call_settled (a : Spec) (d : Nat) (c : Call) (hc : c ≠ .reset) :
    call true (clock (stateOf a) d) c = stateOf (a.call d c) := by
  cases c with
  | reset => exact absurd rfl hc
  | stop => rfl
  | start => tmr

private theorem settle_reset (a : Spec) (d : Nat) (hI : SInv a) :
    settle (callReset true (clock (stateOf a) d)) = stateOf (a.call d .reset) := by
  obtain ⟨p1, p2, p3⟩ := hI
  obtain ⟨i, now, due, stale, ls, lr, st⟩ := a
  cases due <;> cases stale <;> tmr

private theorem await_settled (a : Spec) (d : Nat) (hI : SInv a) :
    Timer.await (stateOf a) d = (stateOf (a.await d).1, (a.await d).2) := by
  obtain ⟨p1, p2, p3⟩ := hI
  obtain ⟨i, now, due, stale, ls, lr, st⟩ := a
  cases due with
  | none => cases stale <;> tmr
  | some t =>
    -- the forms of `shapeT`, one by one: `grind` does not find them by itself here
    cases stale with
    | some v => by_cases h : t ≤ now <;> tmr
    | none =>
      by_cases h : now < t
      · tmr
      · by_cases h' : now < t + i <;> tmr

private theorem probe_settled (a : Spec) (hI : SInv a) :
    Obs.probe (!(stateOf a).stopped) (stateOf a).queue.isSome (alive (stateOf a)) =
      .probe (!a.stopped) a.out2.1.isSome (if a.due.isSome then 1 else 0) := by
  obtain ⟨p1, p2, p3⟩ := hI
  obtain ⟨i, now, due, stale, ls, lr, st⟩ := a
  cases due <;> cases stale <;> tmr

private theorem breaksAt_settled (a : Spec) (d : Nat) (hI : SInv a) : breaksAt (stateOf a) d = a.breaksAt d := by
  obtain ⟨p1, p2, p3⟩ := hI
  obtain ⟨i, now, due, stale, ls, lr, st⟩ := a
  cases due <;> cases stale <;> tmr

private theorem callReset_idem (s : State) : callReset true (callReset true s) = callReset true s := by
  cases h : s.everStarted <;> simp [callReset, h]

private theorem pollLoop_frame (s : State) (next : Nat) : pollLoop s next =
    { s with task := (pollLoop s next).task, queue := (pollLoop s next).queue,
             resetPending := (pollLoop s next).resetPending } := by
  fun_cases pollLoop s next <;> rfl

/-- the task touches nothing but itself and the two channels -/
private theorem settle_frame (s : State) : settle s =
    { s with task := (settle s).task, queue := (settle s).queue, resetPending := (settle s).resetPending } := by
  fun_cases settle s with
  | case1 | case3 => rfl
  | case2 | case4 => exact pollLoop_frame _ _

private theorem call_settle (s : State) (c : Call) (hc : c ≠ .reset) : call true (settle s) c = call true s c := by
  rw [settle_frame]
  cases c with
  | reset => exact absurd rfl hc
  | start => rfl
  | stop => rfl

private theorem callReset_interval (drain : Bool) (s : State) : (callReset drain s).interval = s.interval := by
  unfold callReset; split <;> rfl

private theorem call_interval (drain : Bool) (s : State) (c : Call) : (call drain s c).interval = s.interval := by
  cases c <;> simp [call, callStart, callStop, callReset_interval]

private theorem settle_interval (s : State) : (settle s).interval = s.interval := by rw [settle_frame]

private theorem stepT_interval (drain : Bool) (s : State) (op : Op) : (stepT drain s op).1.interval = s.interval := by
  cases op with
  | await d =>
    show (Timer.await s d).1.interval = s.interval
    fun_cases Timer.await s d <;> simp [settle_interval]
  | _ => simp [stepT, clock, callStart, callStop, callReset_interval, call_interval, settle_interval]

private theorem sinv_call (a : Spec) (d : Nat) (c : Call) (hI : SInv a) : SInv (a.call d c) := by
  fun_cases Spec.call a d c with
  | case1 => constructor <;> simp <;> omega
  | case2 => exact ⟨nofun, fun _ => rfl, nofun⟩
  | case3 t ht => exact ⟨fun _ _ => hI.pos t ht, nofun, fun _ _ => hI.started t ht⟩
  | case4 => exact ⟨hI.pos, hI.stale, hI.started⟩

private theorem sinv_await (a : Spec) (d : Nat) (hI : SInv a) : SInv (a.await d).1 := by
  fun_cases Spec.await a d with
  | case1 => exact ⟨hI.pos, fun _ => rfl, hI.started⟩
  | case2 hs t ht => exact ⟨fun _ _ => hI.pos t ht, fun _ => hs, fun _ _ => hI.started t ht⟩
  | case3 hs t ht => exact ⟨fun _ _ => hI.pos t ht, fun _ => hs, fun _ _ => hI.started t ht⟩
  | _ => exact ⟨hI.pos, hI.stale, hI.started⟩

private theorem step_keeps {P : Spec → Prop} (hcall : ∀ a d c, P a → P (a.call d c))
    (hawait : ∀ a d, P a → P (a.await d).1) (a : Spec) (op : Op)
    (hclock : ∀ d, op = .advance d → P { a with now := a.now + d }) (h : P a) : P (a.step op).1 := by
  have hcalls : ∀ (cs : List Call) (a : Spec), P a → P (a.calls cs) := by
    intro cs a
    fun_induction Spec.calls a cs with
    | case1 a => exact id
    | case2 a rest ih => exact ih
    | case3 a c rest _ ih => exact fun h => ih (hcall a 0 c h)
  cases op with
  | start => exact hcall a 0 .start h
  | stop => exact hcall a 0 .stop h
  | reset => exact hcall a 0 .reset h
  | advance d => exact hclock d rfl
  | advThen d c => exact hcall a d c h
  | await d => exact hawait a d h
  | probe => exact h
  | burst2 c1 c2 => exact hcalls _ a h
  | burst3 c1 c2 c3 => exact hcalls _ a h

private theorem sinv_step (a : Spec) (op : Op) (hI : SInv a) : SInv (a.step op).1 :=
  step_keeps sinv_call sinv_await a op (fun _ _ => ⟨hI.pos, hI.stale, hI.started⟩) hI

private theorem settle_call (a : Spec) (d : Nat) (c : Call) (hI : SInv a) :
    settle (call true (clock (stateOf a) d) c) = stateOf (a.call d c) := by
  by_cases hc : c = .reset
  · exact hc ▸ settle_reset a d hI
  · rw [call_settled a d c hc]; exact settle_clock _ 0 (sinv_call a d c hI)

private theorem settle_calls (cs : List Call) (a : Spec) : SInv a →
    settle (cs.foldl (call true) (stateOf a)) = stateOf (a.calls cs) := by
  fun_induction Spec.calls a cs with
  | case1 a => exact settle_clock a 0
  | case2 a rest ih =>
    intro hI
    rw [← ih hI]
    exact congrArg (fun s => settle (rest.foldl (call true) s)) (callReset_idem _)
  | case3 a c rest hrr ih =>
    intro hI
    have hI' := sinv_call a 0 c hI
    have hc : settle (call true (stateOf a) c) = stateOf (a.call 0 c) := settle_call a 0 c hI
    rw [← ih hI']
    cases rest with
    | nil => exact hc.trans (settle_clock _ 0 hI').symm
    | cons c' rest' =>
      -- the next call sees the state after `c` as if the task had settled: after `start` / `stop` it has,
      -- and after `reset` the next call is not a `reset`
      have key : call true (call true (stateOf a) c) c' = call true (stateOf (a.call 0 c)) c' := by
        by_cases hc' : c' = .reset
        · have : c ≠ .reset := fun h => hrr rest' h (hc' ▸ rfl)
          rw [← call_settled a 0 c this]; rfl
        · rw [← hc, call_settle _ c' hc']
      exact congrArg (fun s => settle (rest'.foldl (call true) s)) key

private theorem sim_step (a : Spec) (op : Op) (hI : SInv a) :
    stepT true (stateOf a) op = (stateOf (a.step op).1, (a.step op).2) := by
  cases op with
  | start => exact congrArg (·, none) (settle_call a 0 .start hI)
  | stop => exact congrArg (·, none) (settle_call a 0 .stop hI)
  | reset => exact congrArg (·, none) (settle_call a 0 .reset hI)
  | advance d => exact congrArg (·, none) (settle_clock a d hI)
  | advThen d c => exact congrArg (·, none) (settle_call a d c hI)
  | await d => simp only [stepT, Spec.step, await_settled a d hI]
  | probe => exact congrArg (stateOf a, some ·) (probe_settled a hI)
  | burst2 c1 c2 => exact congrArg (·, none) (settle_calls [c1, c2] a hI)
  | burst3 c1 c2 c3 => exact congrArg (·, none) (settle_calls [c1, c2, c3] a hI)

private theorem sim_breaks (a : Spec) (op : Op) (hI : SInv a) : breaks (stateOf a) op = a.breaks op := by
  cases op with
  | advance d => exact breaksAt_settled a d hI
  | advThen d c => exact breaksAt_settled a d hI
  | _ => rfl

private theorem eventsOf_rep (a : Spec) (es : Bool) (o : Option Obs) : eventsOf (rep a es) o = a.eventsOf o := by
  cases o <;> rfl

/-- histories: the total run of the model from a represented state is the run of the specification -/
private theorem runT_rep (ops : List Op) (a : Spec) (hI : SInv a) :
    runT true (stateOf a) ops = (stateOf (a.run ops).1, (a.run ops).2) := by
  induction ops generalizing a with
  | nil => rfl
  | cons op ops ih => simp only [runT, Spec.run, sim_step a op hI, ih _ (sinv_step a op hI), eventsOf_rep]

private theorem sinv_init (i : Nat) : SInv (Spec.init i) := by
  constructor <;> simp [Spec.init]

/-! ### the refinement theorem -/

/-- **Refinement (normal form).** For every interval `i` (0 included) and EVERY operation history over
{start, reset, stop, advance, await, advance-then-call-before-the-task-ran, two / three calls back to back
(`burst2`, `burst3`), probe} – whether or not it keeps the property's precondition – every await and probe of
the modelled `Timer` (struct + spawned interval task + both channels) observes exactly what `spec` prescribes,
and with the same ghost variables (time of the last start / reset, stopped flag).

What this is and is not: `Spec` is the QUOTIENT of the model's settled reachable states (`rep` is injective on
well-formed states and every settled state is a `rep`, `timer_state_refines_spec`), i.e. a normal form of the
model, written after the code: it carries the code's accidents (`stale`: the tick in a blocked `send` survives
`reset`; `Spec.calls` collapsing `reset, reset`; `await` answering timeout when the tick is due exactly when the
patience ends).  The theorem is a bisimulation between the model and that normal form - it makes the model
easy to reason about, it is NOT a comparison with an independently written specification, and outside the
property's precondition it adds no assurance about the code (there `Spec` = model = transcription of the code,
tied by the correspondence run only).  What is written from the property, independently of model and code, is
`GoodEvent` below with `no_early_tick` / `no_tick_after_stop`.  The histories are lists of `Op` - the
compositions the harness executes (every op ends settled, at most three calls back to back, an await or a
burst never starts un-settled) - not arbitrary schedules of the primitive steps call / clock / settle. -/
theorem timer_refines_spec (i : Nat) (ops : List Op) :
    (runT true (init i) ops).2 = ((Spec.init i).run ops).2 ∧
    (runT true (init i) ops).2.map (·.obs) = spec i ops := by
  have h : (runT true (init i) ops).2 = ((Spec.init i).run ops).2 :=
    congrArg Prod.snd (runT_rep ops (Spec.init i) (sinv_init i))
  exact ⟨h, by rw [h]; rfl⟩

/-- … and the state the timer is left in is the representation of the specification's state. -/
theorem timer_state_refines_spec (i : Nat) (ops : List Op) :
    ∃ es, (runT true (init i) ops).1 = rep ((Spec.init i).run ops).1 es :=
  ⟨_, congrArg Prod.fst (runT_rep ops (Spec.init i) (sinv_init i))⟩

example : spec 10000 [.start, .advance 30000, .probe, .await 0, .reset, .await 1, .await 9998, .await 1] =
    [.probe true true 1, .tick 10000 30000, .tick 30000 30000, .timeout 39998, .timeout 39999] := by decide

private theorem run_cons {drain : Bool} {s s' : State} {op : Op} {ops : List Op} {evs : List Event}
    (h : run drain s (op :: ops) = some (s', evs)) :
    breaks s op = false ∧ ∃ evs', run drain (stepT drain s op).1 ops = some (s', evs') ∧
      evs = eventsOf s (stepT drain s op).2 ++ evs' := by
  unfold run step at h
  cases hb : breaks s op with
  | true => simp [hb] at h
  | false =>
    simp only [hb] at h
    cases hr : run drain (stepT drain s op).1 ops with
    | none => simp [hr] at h
    | some q =>
      obtain ⟨s2, evs2⟩ := q
      simp [hr] at h
      exact ⟨rfl, evs2, by rw [h.1], h.2.symm⟩

private theorem mem_eventsOf {s : State} {o : Option Obs} {e : Event} (h : e ∈ eventsOf s o) :
    o = some e.obs ∧ e.interval = s.interval := by
  cases o with
  | none => cases h
  | some ob => cases List.mem_singleton.mp h; exact ⟨rfl, rfl⟩

/-- The `interval` recorded in an event is the timer's: `no_early_tick` bounds by `i`. -/
theorem event_interval (i : Nat) (drain : Bool) : ∀ (ops : List Op) (s0 s : State) (evs : List Event),
    s0.interval = i → run drain s0 ops = some (s, evs) → s.interval = i ∧ ∀ e ∈ evs, e.interval = i := by
  intro ops
  induction ops with
  | nil => intro s0 s evs h0 hr; cases hr; simp [h0]
  | cons op ops ih =>
    intro s0 s evs h0 hr
    obtain ⟨_, evs', hr', rfl⟩ := run_cons hr
    have := ih _ s evs' (by rw [stepT_interval]; exact h0) hr'
    refine ⟨this.1, fun e he => ?_⟩
    rcases List.mem_append.mp he with he | he
    · exact (mem_eventsOf he).2.trans h0
    · exact this.2 e he

/-- a history inside the precondition is observed the same by `run` and by the total `runT` -/
theorem run_is_runT (drain : Bool) : ∀ (ops : List Op) (s0 s : State) (evs : List Event),
    run drain s0 ops = some (s, evs) → runT drain s0 ops = (s, evs) := by
  intro ops
  induction ops with
  | nil => intro s0 s evs hr; cases hr; rfl
  | cons op ops ih =>
    intro s0 s evs hr
    obtain ⟨_, evs', hr', rfl⟩ := run_cons hr
    simp [runT, ih _ s evs' hr']

/-- the history keeps the property's precondition (decided on the specification) -/
def keeps : Spec → List Op → Bool
  | _, [] => true
  | a, op :: ops => !a.breaks op && keeps (a.step op).1 ops

private theorem run_keeps (ops : List Op) (a : Spec) (s : State) (evs : List Event) (hI : SInv a)
    (h : run true (stateOf a) ops = some (s, evs)) : keeps a ops = true := by
  induction ops generalizing a evs with
  | nil => rfl
  | cons op ops ih =>
    obtain ⟨hb, evs', hr, _⟩ := run_cons h
    rw [sim_step a op hI] at hr
    rw [sim_breaks a op hI] at hb
    simp [keeps, hb, ih _ evs' (sinv_step a op hI) hr]

/-- the invariant of the specification inside the precondition: nothing stale, at most one tick outstanding -/
private structure PInv (a : Spec) : Prop where
  ipos : 0 < a.i
  nostale : a.stale = none
  ls : a.lastStart.getD 0 ≤ a.now
  lr : a.lastReset.getD 0 ≤ a.now
  due : ∀ t, a.due = some t → armedAt a.lastStart a.lastReset + a.i ≤ t ∧ a.now < t + a.i ∧
          a.stopped = false ∧ ∃ ts, a.lastStart = some ts

/-- what the property demands of a recorded event -/
private def GoodEvent (e : Event) : Prop :=
  ∀ v t, e.obs = .tick v t →
    armedAt e.lastStart e.lastReset + e.interval ≤ v ∧ v ≤ t ∧ e.stopped = false ∧
      ∃ ts, e.lastStart = some ts

private theorem pinv_call (a : Spec) (d : Nat) (c : Call) (h : PInv a) : PInv (a.call d c) := by
  obtain ⟨i, now, due, stale, ls, lr, st⟩ := a
  obtain ⟨q1, rfl, q3, q4, q5⟩ := h
  simp only at q1 q3 q4 q5
  cases c with
  | stop => exact ⟨q1, rfl, Nat.le_add_right_of_le q3, Nat.le_add_right_of_le q4, nofun⟩
  | start => constructor <;> simp [Spec.call, armedAt, q1] <;> omega
  | reset =>
    cases due with
    | none => exact ⟨q1, rfl, Nat.le_add_right_of_le q3, Nat.le_refl _, nofun⟩
    | some t =>
      obtain ⟨q6, q7, q8, ts, q9⟩ := q5 t rfl
      subst q8 q9
      simp only [armedAt, Option.getD_some] at q3 q6
      have : ¬ t + i ≤ now := by omega
      constructor <;> simp [Spec.call, Spec.out2, armedAt, this] <;> grind

private theorem pinv_await (a : Spec) (d : Nat) (h : PInv a) :
    PInv (a.await d).1 ∧ ∀ e ∈ a.eventsOf (some (a.await d).2), GoodEvent e := by
  obtain ⟨i, now, due, stale, ls, lr, st⟩ := a
  obtain ⟨q1, rfl, q3, q4, q5⟩ := h
  simp only at q1 q3 q4 q5
  cases due with
  | none => exact ⟨⟨q1, rfl, Nat.le_add_right_of_le q3, Nat.le_add_right_of_le q4, nofun⟩, by simp [Spec.await, Spec.eventsOf, GoodEvent]⟩
  | some t =>
    obtain ⟨q6, q7, q8, ts, q9⟩ := q5 t rfl
    subst q8 q9
    simp only [armedAt, Option.getD_some] at q3 q6
    simp only [Spec.await, Spec.eventsOf, GoodEvent, armedAt, List.mem_singleton, forall_eq]
    split
    · refine ⟨⟨q1, rfl, q3, q4, ?_⟩, ?_⟩ <;> simp [armedAt] <;> omega
    · split <;> refine ⟨⟨q1, rfl, ?_, ?_, ?_⟩, ?_⟩ <;> simp [armedAt] <;> omega

/-- inside the precondition the clock stops short of the second outstanding tick -/
private theorem pinv_step (a : Spec) (op : Op) (h : PInv a) (hb : a.breaks op = false) : PInv (a.step op).1 := by
  refine step_keeps pinv_call (fun a d h => (pinv_await a d h).1) a op (fun d hop => ?_) h
  subst hop
  refine ⟨h.ipos, h.nostale, Nat.le_add_right_of_le h.ls, Nat.le_add_right_of_le h.lr, fun t ht => ?_⟩
  obtain ⟨h1, _, h3⟩ := h.due t ht
  have : ¬ t + a.i ≤ a.now + d := by simpa [Spec.breaks, Spec.breaksAt, show a.due = some t from ht, h.nostale] using hb
  exact ⟨h1, by show a.now + d < t + a.i; omega, h3⟩

private theorem good_step (a : Spec) (op : Op) (h : PInv a) : ∀ e ∈ a.eventsOf (a.step op).2, GoodEvent e := by
  cases op with
  | await d => exact (pinv_await a d h).2
  | probe => simp [Spec.step, Spec.eventsOf, GoodEvent]
  | _ => simp [Spec.step, Spec.eventsOf]

private theorem keeps_good (ops : List Op) (a : Spec) (h : PInv a) (hk : keeps a ops = true) :
    ∀ e ∈ (a.run ops).2, GoodEvent e := by
  induction ops generalizing a with
  | nil => simp [Spec.run]
  | cons op ops ih =>
    intro e he
    simp only [keeps, Bool.and_eq_true, Bool.not_eq_true'] at hk
    simp only [Spec.run, List.mem_append] at he
    rcases he with he | he
    · exact good_step a op h e he
    · exact ih (a.step op).1 (pinv_step a op h hk.1) hk.2 e he

private theorem run_good (i : Nat) (hi : 0 < i) (ops : List Op) (s : State) (evs : List Event)
    (hrun : run true (init i) ops = some (s, evs)) : ∀ e ∈ evs, GoodEvent e := by
  have h : evs = ((Spec.init i).run ops).2 := by
    rw [← (timer_refines_spec i ops).1, run_is_runT true ops _ s evs hrun]
  rw [h]
  exact keeps_good ops _ ⟨hi, rfl, Nat.le_refl _, Nat.le_refl _, nofun⟩ (run_keeps ops (Spec.init i) s evs (sinv_init i) hrun)

/-! ### property theorems (safety): corollaries of the refinement -/

/-- **No early tick.** In every operation history that satisfies the precondition (`run` succeeds), for
every interval `i > 0`: a tick observed at clock `t` satisfies `t ≥ max(lastStart, lastReset) + i`, where
`lastStart` / `lastReset` are the times of the last `start` / `reset` calls before that await. The
Instant `v` the tick carries obeys the same bound (the tick was *generated* no earlier than that, not
merely received late). -/
theorem no_early_tick (i : Nat) (hi : 0 < i) (ops : List Op) (s : State) (evs : List Event)
    (hrun : run true (init i) ops = some (s, evs)) :
    ∀ e ∈ evs, ∀ v t, e.obs = .tick v t →
      armedAt e.lastStart e.lastReset + e.interval ≤ t ∧
      armedAt e.lastStart e.lastReset + e.interval ≤ v ∧ v ≤ t := by
  intro e he v t hvt
  have := run_good i hi ops s evs hrun e he v t hvt
  omega

/-- **No tick after stop.** Under the same hypotheses: when a tick is observed, the last of the
`start` / `stop_and_reset` calls before it was a `start` (`stopped = false`; initially the timer
counts as stopped), and a full interval has elapsed since that start. Hence after a stop no
await observes a tick until the timer has been started again and one interval has passed. -/
theorem no_tick_after_stop (i : Nat) (hi : 0 < i) (ops : List Op) (s : State) (evs : List Event)
    (hrun : run true (init i) ops = some (s, evs)) :
    ∀ e ∈ evs, ∀ v t, e.obs = .tick v t →
      e.stopped = false ∧ ∃ ts, e.lastStart = some ts ∧ ts + e.interval ≤ t := by
  intro e he v t hvt
  obtain ⟨h1, h2, h3, ts, h4⟩ := run_good i hi ops s evs hrun e he v t hvt
  refine ⟨h3, ts, h4, ?_⟩
  simp only [armedAt, h4, Option.getD_some] at h1
  omega

/-! ### liveness under the controlled clock -/

/-- the timer has just been armed: its task waits for `now + interval`, nothing is queued -/
def JustArmed (s : State) : Prop :=
  0 < s.interval ∧ s.task = .waiting (s.now + s.interval) ∧ s.queue = none ∧ s.resetPending = false

/-- `start` arms the timer whatever state it was in - running, blocked on a full channel, stopped:
**start on a running timer re-arms** (the old task and its schedule are gone, what was queued is
drained), and the later of last start / last reset is now. -/
theorem start_rearms (s : State) (hi : 0 < s.interval) :
    JustArmed (stepT true s .start).1 ∧ (stepT true s .start).1.now = s.now ∧
    (stepT true s .start).1.lastStart = some s.now ∧ (stepT true s .start).1.stopped = false ∧
    alive (stepT true s .start).1 = 1 := by
  have : s.interval ≠ 0 := by omega
  have h2 : ¬ (s.now + s.interval ≤ s.now) := by omega
  simp [JustArmed, stepT, callStart, settle, pollLoop, alive, this, h2]
  omega

/-- `reset` of a running timer with at most one tick outstanding (the task is not blocked in `send`)
arms it as well. -/
theorem reset_rearms (s : State) (hi : 0 < s.interval) (he : s.everStarted = true) (next : Nat)
    (ht : s.task = .waiting next) :
    JustArmed (stepT true s .reset).1 ∧ (stepT true s .reset).1.now = s.now ∧
    (stepT true s .reset).1.lastReset = some s.now := by
  simp [JustArmed, stepT, callReset, settle, pollLoop, he, ht]
  omega

/-- **A tick exactly at the deadline.** The timer was armed at `T` (`JustArmed`; by `start_rearms` /
`reset_rearms` that is the later of the last start and the last reset). The clock is advanced by `d`
(less than two intervals: the precondition) and the tick is then awaited for longer than what is
left of the interval: the await DOES observe a tick, the tick carries exactly `T + interval`, and it is
observed at that very instant when the await began before it (`d < interval`), else at once. -/
theorem tick_exactly_at_deadline (s : State) (h : JustArmed s) (d e : Nat) (hd : d < 2 * s.interval)
    (he : s.interval < d + e) :
    let s1 := (stepT true s (.advance d)).1
    (stepT true s1 (.await e)).2 = some (.tick (s.now + s.interval) (max (s.now + s.interval) (s.now + d))) ∧
    breaks s (.advance d) = false := by
  obtain ⟨h0, h1, h2, h3⟩ := h
  by_cases hc : s.now + s.interval ≤ s.now + d <;>
    simp [stepT, clock, settle, pollLoop, Timer.await, breaks, breaksAt, h1, h2, h3, hc] <;> grind

/-- an await longer than the interval on a just-armed timer: a tick exactly one interval later, and the
timer is just-armed again at that instant -/
private theorem await_justArmed (s : State) (h : JustArmed s) (e : Nat) (he : s.interval < e) :
    (stepT true s (.await e)).2 = some (.tick (s.now + s.interval) (s.now + s.interval)) ∧
    JustArmed (stepT true s (.await e)).1 ∧ (stepT true s (.await e)).1.now = s.now + s.interval ∧
    (stepT true s (.await e)).1.interval = s.interval := by
  obtain ⟨h0, h1, h2, h3⟩ := h
  have : s.now + s.interval < s.now + e := by omega
  simp [stepT, Timer.await, JustArmed, h0, h1, h2, h3, this]

/-- the observations of a run -/
def obsOf (r : State × List Event) : List Obs := r.2.map (·.obs)

/-- **Periodicity.** A timer armed at `T` that is only awaited (each await longer than the interval, no
start / stop / reset in between) ticks at exactly `T + i, T + 2i, .., T + n·i`: the `k`-th tick carries
`T + k·i` and is observed at that instant. -/
theorem kth_tick_at_k_intervals (e : Nat) : ∀ (n : Nat) (s : State), JustArmed s → s.interval < e →
    obsOf (runT true s (List.replicate n (.await e))) =
      (List.range n).map (fun k => .tick (s.now + (k + 1) * s.interval) (s.now + (k + 1) * s.interval)) := by
  intro n
  induction n with
  | zero => intro s _ _; rfl
  | succ n ih =>
    intro s h he
    obtain ⟨h1, h2, h3, h4⟩ := await_justArmed s h e he
    have ih' := ih _ h2 (h4 ▸ he)
    simp only [obsOf] at ih' ⊢
    simp only [List.replicate_succ, runT, h1, eventsOf, List.map_append, ih', h3, h4, List.range_succ_eq_map,
      List.map_cons, List.map_map]
    -- the `k`-th tick after the first is the `k + 1`-st
    simp [Function.comp_def, Nat.add_mul, Nat.add_assoc, Nat.add_comm s.interval]

/-- the hypotheses are satisfiable: five ticks, 8 s apart, after a restart at 3 s -/
example : obsOf (runT true (init 8000) ([.start, .advance 3000, .start] ++ List.replicate 5 (.await 9000))) =
    [.tick 11000 11000, .tick 19000 19000, .tick 27000 27000, .tick 35000 35000, .tick 43000 43000] := by decide

/-! ### corner cases -/

/-- the timer is silent: no task, nothing queued -/
def Silent (s : State) : Prop := s.task = .dead ∧ s.queue = none

/-- an operation that does not start the timer -/
def notStart : Op → Bool
  | .start => false
  | .advThen _ .start => false
  | .burst2 c1 c2 => c1 != .start && c2 != .start
  | .burst3 c1 c2 c3 => c1 != .start && c2 != .start && c3 != .start
  | _ => true

private theorem silent_calls (cs : List Call) (s : State) (h : Silent s)
    (hn : s.interval = 0 ∨ cs.all (· != .start) = true) : Silent (settle (cs.foldl (call true) s)) := by
  induction cs generalizing s with
  | nil => simpa [settle, h.1] using h
  | cons c cs ih =>
    simp only [List.all_cons, Bool.and_eq_true, bne_iff_ne] at hn
    refine ih (call true s c) ?_ (by rw [call_interval]; exact hn.imp_right And.right)
    obtain ⟨h1, h2⟩ := h
    cases c with
    | stop => simp [Silent, call, callStop]
    | reset => simp only [Silent, call, callReset]; split <;> simp [h1, h2]
    | start => simp [Silent, call, callStart, hn.resolve_right (fun h => h.1 rfl)]

private theorem silent_step (s : State) (op : Op) (h : Silent s) (hn : s.interval = 0 ∨ notStart op = true) :
    Silent (stepT true s op).1 ∧ ∀ v t, (stepT true s op).2 ≠ some (.tick v t) := by
  cases op with
  | start => exact ⟨silent_calls [.start] s h (hn.imp_right (by simp [notStart])), nofun⟩
  | stop => exact ⟨silent_calls [.stop] s h (.inr rfl), nofun⟩
  | reset => exact ⟨silent_calls [.reset] s h (.inr rfl), nofun⟩
  | advance d => exact ⟨silent_calls [] (clock s d) h (.inr rfl), nofun⟩
  | advThen d c => exact ⟨silent_calls [c] (clock s d) h (hn.imp_right (by cases c <;> simp [notStart])), nofun⟩
  | burst2 c1 c2 => exact ⟨silent_calls [c1, c2] s h (hn.imp_right (by simp [notStart])), nofun⟩
  | burst3 c1 c2 c3 =>
    exact ⟨silent_calls [c1, c2, c3] s h (hn.imp_right (by simp [notStart, Bool.and_assoc])), nofun⟩
  | await d => simp [stepT, Timer.await, Silent, h.1, h.2]
  | probe => exact ⟨h, by simp [stepT]⟩

private theorem silent_run (ops : List Op) (s : State) (h : Silent s)
    (hn : s.interval = 0 ∨ ops.all notStart = true) : ∀ e ∈ (runT true s ops).2, ∀ v t, e.obs ≠ .tick v t := by
  induction ops generalizing s with
  | nil => simp [runT]
  | cons op ops ih =>
    intro e he
    simp only [List.all_cons, Bool.and_eq_true] at hn
    have hs := silent_step s op h (hn.imp_right And.left)
    simp only [runT, List.mem_append] at he
    rcases he with he | he
    · intro v t hvt
      exact hs.2 v t (hvt ▸ (mem_eventsOf he).1)
    · exact ih _ hs.1 (by rw [stepT_interval]; exact hn.imp_right And.right) e he

/-- **`reset` on a stopped timer does not arm it** (it only logs a warning), and more generally a timer
that is not running - never started, or stopped - stays silent under every history without a `start`:
resets, stops, advances and awaits observe no tick. -/
theorem silent_until_start : ∀ (ops : List Op) (s : State), Silent s → ops.all notStart = true →
    ∀ e ∈ (runT true s ops).2, ∀ v t, e.obs ≠ .tick v t :=
  fun ops s h hn => silent_run ops s h (.inr hn)

/-- `stop_and_reset` leaves the timer silent, in every state (running, blocked, already stopped) …
(this, `stop_twice` and `start_rearms` are one unfolding of the model's definitions: sanity lemmas about the
transcription, no evidence about the code by themselves; with `silent_until_start` they are why the oracle may
judge "no tick while stopped" on EVERY history and resume full judging at a start / stop, c20.rs `oracle`) -/
theorem stop_silences (s : State) : Silent (stepT true s .stop).1 ∧ (stepT true s .stop).1.stopped = true ∧
    alive (stepT true s .stop).1 = 0 := by
  simp [Silent, stepT, callStop, settle, alive]

/-- … and **stopping twice is stopping once** (the second call only logs a warning). -/
theorem stop_twice (s : State) : (stepT true (stepT true s .stop).1 .stop).1 = (stepT true s .stop).1 := by
  simp [stepT, callStop, settle]

/-- `reset` of a timer that is not running changes nothing but the ghost "time of the last reset". -/
theorem reset_stopped_noop (s : State) (h : Silent s) (hr : s.resetPending = false) :
    (stepT true s .reset).1 = { s with lastReset := some s.now } := by
  rcases s with ⟨i, now, task, queue, rp, es, ls, lr, st⟩
  obtain ⟨rfl, rfl⟩ := h
  cases hr
  cases es <;> simp [stepT, callReset, settle]

/-- **Interval 0 never ticks.** `Session::new` creates such timers (keepalive for hold times 0..2, all of
them for hold time 0). `start` spawns a task that panics in `tokio::time::interval(0)`; `is_running()` is
true, no tick is ever observed, in any history. -/
theorem interval_zero_never_ticks (ops : List Op) :
    ∀ e ∈ (runT true (init 0) ops).2, ∀ v t, e.obs ≠ .tick v t :=
  silent_run ops (init 0) ⟨rfl, rfl⟩ (.inl rfl)

/-- … while `is_running()` says yes: `start; probe` on an interval-0 timer. -/
example : spec 0 [.start, .probe, .advance 5000, .await 5000, .probe] =
    [.probe true false 0, .timeout 10000, .probe true false 0] := by decide

/-! ### non-vacuity, and the defect F17 as a theorem about the unrepaired model -/

/-- A 9-operation history (interval 8 s) that satisfies the precondition and in which two ticks
are observed: start; ¼ interval passes; await (tick at 8 s); reset at 8 s; one interval passes;
await (queued tick, generated at 16 s); stop; two intervals pass; await (nothing). -/
def exHistory : List Op :=
  [.start, .advance 2000, .await 9000, .reset, .advance 8000, .await 1000, .stop, .advance 16000, .await 9000]

example : (run true (init 8000) exHistory).map (fun r => r.2.map (·.obs)) =
    some [.tick 8000 8000, .tick 16000 16000, .timeout 41000] := by decide

/-- F17: in the model of the code *before* the fix (`drain = false`) the statement of
`no_tick_after_stop` is false – `start; advance i; stop; await` observes a tick while stopped –
and so is `no_early_tick` – `start; advance i; reset; advance i/2; await` observes a tick half
an interval after the reset. Both histories satisfy the precondition. -/
theorem unrepaired_timer_ticks_after_stop :
    ∃ evs s, run false (init 10000) [.start, .advance 10000, .stop, .await 20000] = some (s, evs) ∧
      ∃ e ∈ evs, e.obs = .tick 10000 10000 ∧ e.stopped = true := by
  refine ⟨_, _, rfl, _, List.mem_singleton.mpr rfl, rfl, rfl⟩

theorem unrepaired_timer_ticks_early :
    ∃ evs s, run false (init 10000) [.start, .advance 10000, .reset, .advance 5000, .await 1] = some (s, evs) ∧
      ∃ e ∈ evs, e.obs = .tick 10000 15000 ∧ e.lastReset = some 10000 := by
  refine ⟨_, _, rfl, _, List.mem_singleton.mpr rfl, rfl, rfl⟩

end Rc.Thm.C20
