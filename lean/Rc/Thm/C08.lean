/-
C08 – the session FSM follows RFC 4271 section 8.2.2; UPDATEs reach the
application only when Established.

This file holds the specification (the RFC's transition table, transcribed
paragraph by paragraph, independent of the structure of the code) and the
property theorems about the model `Rc.Fsm` (Rc/Model/Fsm.lean): the four clauses
on arms, inputs and histories, then `Session::tick` (frames, commands, the outgoing
queue, the timer branches and their link to the C20 timer specification).  The model
is tied to `src/bgp/fsm/session.rs` by the exhaustive correspondence run of
`./check C08`.
-/
import Rc.Model.Fsm
import Rc.Model.Timer

namespace Rc.Thm.C08
open Rc Rc.Fsm

/-! ## Specification: RFC 4271, sections 8.1 (events) and 8.2.2 (transitions) -/

/-- RFC 4271 section 8.1.2-8.1.5: the number of the event an implementation event is.
An OPEN "received with errors" is Event 22 (8.1.5); the errors the session can judge
are the peer AS (6.2, Bad Peer AS) and a capability that does not parse. -/
def rfcEvent : Kind → Nat
  | .manualStart => 1            -- Event 1: ManualStart
  | .manualStop => 2             -- Event 2: ManualStop
  | .automaticStart => 3         -- Event 3: AutomaticStart
  | .manualStartPassive => 4     -- Event 4: ManualStart_with_PassiveTcpEstablishment
  | .automaticStartPassive => 5  -- Event 5: AutomaticStart_with_PassiveTcpEstablishment
  | .connectRetryTimerExpires => 9   -- Event 9
  | .holdTimerExpires => 10          -- Event 10
  | .keepaliveTimerExpires => 11     -- Event 11
  | .delayOpenTimerExpires => 12     -- Event 12
  | .tcpCrAcked => 16                -- Event 16: Tcp_CR_Acked
  | .tcpConnectionConfirmed => 17    -- Event 17
  | .tcpConnectionFails => 18        -- Event 18
  | .bgpOpen asOk capsOk => if asOk && capsOk then 19 else 22        -- Event 19: BGPOpen / Event 22: BGPOpenMsgErr
  | .bgpHeaderErr => 21              -- Event 21
  | .bgpOpenMsgErr => 22             -- Event 22
  | .notifMsgVerErr => 24            -- Event 24
  | .notifMsg => 25                  -- Event 25
  | .keepaliveMsg => 26              -- Event 26: KeepAliveMsg
  | .updateMsg => 27                 -- Event 27
  | .updateMsgErr => 28              -- Event 28
  | .bgpOpenDelay asOk capsOk => if asOk && capsOk then 20 else 22   -- Event 20: BGPOpen with DelayOpenTimer running

/-- "The start events (Events 1, 3-7) are ignored in the … state." -/
def isStartEvent (n : Nat) : Bool := n == 1 || (3 ≤ n && n ≤ 7)

/-- RFC 4271 section 8.2.2, next state per (state, event number).  `delayOpen` is the
DelayOpen attribute, `dopRunning` "the DelayOpenTimer is running".  The function is total in
fact (it never returns `none`; the `Option` is kept for the callers): where the RFC mentions
connection collision detection (section 6.8: Event 19 in OpenConfirm / Established) the row is
fixed to the one next state the RFC names there, Idle. -/
def rfcTable (delayOpen dopRunning : Bool) : State → Nat → Option State
  /- Idle state: "In response to a ManualStart event (Event 1) or an AutomaticStart event
     (Event 3), the local system … changes its state to Connect."  "In response to a
     ManualStart_with_PassiveTcpEstablishment event (Event 4) or AutomaticStart_with_
     PassiveTcpEstablishment event (Event 5) … changes its state to Active."  "The
     ManualStop event (Event 2) and AutomaticStop (Event 8) event are ignored in the Idle
     state."  "Any other event (Events 9-12, 15-28) received in the Idle state does not
     cause change in the state of the local system." -/
  | .idle, n =>
    if n == 1 || n == 3 then some .connect
    else if n == 4 || n == 5 then some .active
    else some .idle
  /- Connect state -/
  | .connect, n =>
    if isStartEvent n then some .connect          -- "The start events (Events 1, 3-7) are ignored in the Connect state."
    else if n == 2 then some .idle                -- ManualStop: "… changes its state to Idle."
    else if n == 9 then some .connect             -- ConnectRetryTimer_Expires: "… stays in the Connect state."
    else if n == 12 then some .openSent           -- DelayOpenTimer_Expires: "sends an OPEN … changes its state to OpenSent."
    else if n == 14 || n == 15 then some .connect -- TcpConnection_Valid / Tcp_CR_Invalid: "stays in the Connect state."
    else if n == 16 || n == 17 then               -- Tcp_CR_Acked / TcpConnectionConfirmed:
      (if delayOpen then some .connect            --   DelayOpen TRUE: "stays in the Connect state."
       else some .openSent)                       --   DelayOpen FALSE: "changes its state to OpenSent."
    else if n == 18 then                          -- TcpConnectionFails:
      (if dopRunning then some .active            --   DelayOpenTimer running: "changes its state to Active."
       else some .idle)                           --   not running: "changes its state to Idle."
    else if n == 20 then some .openConfirm        -- OPEN with DelayOpenTimer running: "changes its state to OpenConfirm."
    else if n == 21 || n == 22 then some .idle    -- BGPHeaderErr / BGPOpenMsgErr: "changes its state to Idle."
    else if n == 24 then some .idle               -- NotifMsgVerErr: (both sub-cases) "changes its state to Idle."
    else some .idle                               -- "any other events (Events 8, 10-11, 13, 19, 23, 25-28) … changes its state to Idle."
  /- Active state -/
  | .active, n =>
    if isStartEvent n then some .active           -- "The start events (Events 1, 3-7) are ignored in the Active state."
    else if n == 2 then some .idle                -- ManualStop: "changes its state to Idle."
    else if n == 9 then some .connect             -- ConnectRetryTimer_Expires: "… changes its state to Connect."
    else if n == 12 then some .openSent           -- DelayOpenTimer_Expires: "changes its state to OpenSent."
    else if n == 14 || n == 15 then some .active  -- TcpConnection_Valid / Tcp_CR_Invalid: "stays in the Active state."
    else if n == 16 || n == 17 then               -- Tcp_CR_Acked / TcpConnectionConfirmed:
      (if delayOpen then some .active             --   "stays in the Active state."
       else some .openSent)                       --   "changes its state to OpenSent."
    else if n == 18 then some .idle               -- TcpConnectionFails: "changes its state to Idle."
    else if n == 20 then some .openConfirm        -- OPEN with DelayOpenTimer running: "changes its state to OpenConfirm."
    else if n == 21 || n == 22 then some .idle    -- "changes its state to Idle."
    else if n == 24 then some .idle               -- NotifMsgVerErr: "changes its state to Idle."
    else some .idle                               -- "any other event (Events 8, 10-11, 13, 19, 23, 25-28) … Idle."
  /- OpenSent state -/
  | .openSent, n =>
    if isStartEvent n then some .openSent         -- "The start events (Events 1, 3-7) are ignored in the OpenSent state."
    else if n == 2 || n == 8 then some .idle      -- ManualStop / AutomaticStop: "sends the NOTIFICATION with a Cease … Idle."
    else if n == 10 then some .idle               -- HoldTimer_Expires: "sends a NOTIFICATION message with the error code Hold Timer Expired … Idle."
    else if n == 14 || n == 16 || n == 17 then some .openSent  -- "a second TCP connection may be in progress … tracked"
    else if n == 15 then some .openSent           -- "A TCP Connection Request for an Invalid port (Tcp_CR_Invalid (Event 15)) is ignored."
    else if n == 18 then some .active             -- TcpConnectionFails: "changes its state to Active."
    else if n == 19 then some .openConfirm        -- BGPOpen: "sends a KEEPALIVE message … changes its state to OpenConfirm."
    else if n == 21 || n == 22 then some .idle    -- "sends a NOTIFICATION message with the appropriate error code … Idle."
    else if n == 23 then some .idle               -- OpenCollisionDump
    else if n == 24 then some .idle               -- NotifMsgVerErr
    else some .idle                               -- "any other event (Events 9, 11-13, 20, 25-28) … sends the NOTIFICATION with the Error Code Finite State Machine Error … Idle."
  /- OpenConfirm state -/
  | .openConfirm, n =>
    if isStartEvent n then some .openConfirm      -- "Any start event (Events 1, 3-7) is ignored in the OpenConfirm state."
    else if n == 2 || n == 8 then some .idle      -- ManualStop / AutomaticStop: "sends the NOTIFICATION message with a Cease … Idle."
    else if n == 10 then some .idle               -- HoldTimer_Expires: "sends the NOTIFICATION message with the Error Code Hold Timer Expired … Idle."
    else if n == 11 then some .openConfirm        -- KeepaliveTimer_Expires: "sends a KEEPALIVE … remains in the OpenConfirmed state."
    else if n == 14 || n == 16 || n == 17 then some .openConfirm -- "the local system needs to track the second connection."
    else if n == 15 then some .openConfirm        -- "… (Event 15) is ignored."
    else if n == 18 || n == 25 then some .idle    -- TcpConnectionFails or NOTIFICATION: "changes its state to Idle."
    else if n == 24 then some .idle               -- NotifMsgVerErr
    else if n == 19 then some .idle               -- BGPOpen: "the collision detect function is processed per Section 6.8 … If this connection is to be dropped … changes its state to Idle" – the only next state the RFC names for Event 19 here; the implementation tracks a single connection and always drops it
    else if n == 21 || n == 22 then some .idle    -- "sends a NOTIFICATION message with the appropriate error code … Idle."
    else if n == 23 then some .idle               -- OpenCollisionDump
    else if n == 26 then some .established        -- KeepAliveMsg: "restarts the HoldTimer and changes its state to Established."
    else some .idle                               -- "any other event (Events 9, 12-13, 20, 27-28) … sends a NOTIFICATION with a code of Finite State Machine Error … Idle."
  /- Established state -/
  | .established, n =>
    if isStartEvent n then some .established      -- "Any Start event (Events 1, 3-7) is ignored in the Established state."
    else if n == 2 || n == 8 then some .idle      -- ManualStop / AutomaticStop: "sends the NOTIFICATION message with a Cease … Idle."
    else if n == 10 then some .idle               -- HoldTimer_Expires: "sends a NOTIFICATION message with the Error Code Hold Timer Expired … Idle."
    else if n == 11 then some .established        -- KeepaliveTimer_Expires: "sends a KEEPALIVE message, and restarts its KeepaliveTimer"
    else if n == 14 || n == 15 then some .established  -- tracked / ignored
    else if n == 16 || n == 17 then some .established  -- "the second connection SHALL be tracked until it sends an OPEN message."
    else if n == 19 then some .idle               -- valid OPEN: collision detection (CollisionDetectEstablishedState, section 6.8); when the established connection is closed: Idle – the only next state the RFC names for Event 19 here
    else if n == 23 then some .idle               -- OpenCollisionDump
    else if n == 24 || n == 25 || n == 18 then some .idle -- NotifMsgVerErr / NotifMsg / TcpConnectionFails: "changes its state to Idle."
    else if n == 26 then some .established        -- KeepAliveMsg: "restarts its HoldTimer … remains in the Established state."
    else if n == 27 then some .established        -- UpdateMsg: "processes the message … remains in the Established state."
    else if n == 28 then some .idle               -- UpdateMsgErr: "sends a NOTIFICATION message with an Update error … Idle."
    else some .idle                               -- "any other event (Events 9, 12-13, 20-22) … sends a NOTIFICATION message with the Error Code Finite State Machine Error … Idle."

/-- The next state the RFC prescribes for an implementation state / event kind. -/
def rfcNext (st : State) (k : Kind) (c : Ctx) : Option State :=
  rfcTable c.delayOpen c.dopRunning st (rfcEvent k)

/-- The "any other event" lists of the three states that follow the sending of an OPEN:
the events the RFC answers with a Finite State Machine Error NOTIFICATION. -/
def rfcForbidden : State → Nat → Bool
  | .openSent, n => n == 9 || n == 11 || n == 12 || n == 13 || n == 20 || (25 ≤ n && n ≤ 28)   -- "(Events 9, 11-13, 20, 25-28)"
  | .openConfirm, n => n == 9 || n == 12 || n == 13 || n == 20 || n == 27 || n == 28           -- "(Events 9, 12-13, 20, 27-28)"
  | .established, n => n == 9 || n == 12 || n == 13 || (20 ≤ n && n ≤ 22)                      -- "(Events 9, 12-13, 20-22)"
  | _, _ => false

/-- NOTIFICATION subcode of a Finite State Machine Error per state (RFC 6608). -/
def fsmSubcode : State → Nat
  | .openSent => 1 | .openConfirm => 2 | .established => 3 | _ => 0

/-- The NOTIFICATION the RFC names in OpenSent / OpenConfirm / Established:
`(error code, required subcode if the property fixes one)`.
ManualStop → Cease (6); HoldTimer_Expires → Hold Timer Expired (4); a forbidden event →
Finite State Machine Error (5) with the state's subcode. -/
def rfcNotif (st : State) (k : Kind) : Option (Nat × Option Nat) :=
  match st with
  | .openSent | .openConfirm | .established =>
    if rfcEvent k == 2 then some (6, none)
    else if rfcEvent k == 10 then some (4, none)
    else if rfcForbidden st (rfcEvent k) then some (5, some (fsmSubcode st))
    else none
  | _ => none

/-- K5, the recorded deviation: (Active, ConnectRetryTimer_Expires) with a configuration
that is not an exact address stays Active ("this is not described in 4271",
session.rs:835); with an exact address the arm is `todo!()`. -/
def isK5 (c : Ctx) (st : State) (k : Kind) : Bool :=
  st == .active && k == .connectRetryTimerExpires && !c.isExact

/-! ## finite enumeration (core Lean has no `Fintype`) -/

def allStates : List State := [.idle, .connect, .active, .openSent, .openConfirm, .established]

def allKinds : List Kind :=
  [.manualStart, .manualStop, .automaticStart, .manualStartPassive, .automaticStartPassive,
   .connectRetryTimerExpires, .holdTimerExpires, .keepaliveTimerExpires, .delayOpenTimerExpires,
   .tcpCrAcked, .tcpConnectionConfirmed, .tcpConnectionFails,
   .bgpOpen false false, .bgpOpen false true, .bgpOpen true false, .bgpOpen true true,
   .bgpHeaderErr, .bgpOpenMsgErr, .notifMsgVerErr, .notifMsg, .keepaliveMsg, .updateMsg, .updateMsgErr,
   .bgpOpenDelay false false, .bgpOpenDelay false true, .bgpOpenDelay true false, .bgpOpenDelay true true]

def allBools : List Bool := [false, true]

def allCtxs : List Ctx :=
  allBools.flatMap fun a => allBools.flatMap fun b => allBools.flatMap fun c =>
  allBools.flatMap fun d => allBools.map fun e => ⟨a, b, c, d, e⟩

private theorem mem_allStates (s : State) : s ∈ allStates := by cases s <;> decide

private theorem mem_allKinds (k : Kind) : k ∈ allKinds := by
  cases k with
  | bgpOpen a b | bgpOpenDelay a b => cases a <;> cases b <;> decide
  | _ => decide

private theorem mem_allBools (b : Bool) : b ∈ allBools := by cases b <;> decide

private theorem mem_allCtxs (c : Ctx) : c ∈ allCtxs := by
  obtain ⟨a, b, c, d, e⟩ := c
  simp only [allCtxs, List.mem_flatMap, List.mem_map]
  exact ⟨a, mem_allBools a, b, mem_allBools b, c, mem_allBools c, d, mem_allBools d, e, mem_allBools e, rfl⟩

/-- a boolean table over every (context, state, event kind) -/
def checkAll (p : Ctx → State → Kind → Bool) : Bool :=
  allCtxs.all fun c => allStates.all fun s => allKinds.all fun k => p c s k

private theorem checkAll_sound {p : Ctx → State → Kind → Bool} (h : checkAll p = true)
    (c : Ctx) (s : State) (k : Kind) : p c s k = true := by
  simp only [checkAll, List.all_eq_true] at h
  exact h c (mem_allCtxs c) s (mem_allStates s) k (mem_allKinds k)

/-! ## what an action list does to the state, the connection and the PDUs sent -/

/-- the state after an arm: the last `set_state` -/
def finalState : State → List Act → State
  | st, [] => st
  | _, .setState s :: rest => finalState s rest
  | st, _ :: rest => finalState st rest

/-- the arm releases the connection (`disconnect` / `drop_connection`) -/
def drops : List Act → Bool
  | [] => false
  | .disconnect _ :: _ => true
  | .dropConn :: _ => true
  | _ :: rest => drops rest

/-- the NOTIFICATIONs an arm sends -/
def notifsOf : List Act → List (Nat × Nat)
  | [] => []
  | .disconnect r :: rest => r.notif :: notifsOf rest
  | _ :: rest => notifsOf rest

private theorem exec_state (cfg : Cfg) (o : OpenInfo) (s : St) (acts : List Act) :
    (exec cfg o s acts).1.state = finalState s.state acts := by
  induction acts generalizing s with
  | nil => rfl
  | cons a rest ih => cases a <;> exact ih _

private theorem exec_conn (cfg : Cfg) (o : OpenInfo) (s : St) (acts : List Act) :
    (exec cfg o s acts).1.conn = (s.conn && !drops acts) := by
  induction acts generalizing s with
  | nil => simp [exec, drops]
  | cons a rest ih =>
    cases a with
    | disconnect | dropConn => simp [exec, execAct, drops, ih]
    | _ => exact ih _

private theorem exec_notifs (cfg : Cfg) (o : OpenInfo) (s : St) (acts : List Act) (p : Nat × Nat)
    (h : p ∈ notifsOf acts) : Out.pduNotification p.1 p.2 ∈ (exec cfg o s acts).2 := by
  fun_induction notifsOf acts generalizing s with
  | case1 => cases h
  | case2 r rest ih =>
    rcases List.mem_cons.mp h with rfl | h
    · exact List.mem_cons_self ..
    · exact List.mem_cons_of_mem _ (ih _ h)
  | case3 a rest _ ih => exact List.mem_append_right _ (ih _ h)

private theorem exec_no_appUpdate (cfg : Cfg) (o : OpenInfo) (s : St) (acts : List Act) (n : Nat) :
    Out.appUpdate n ∉ (exec cfg o s acts).2 := by
  induction acts generalizing s with
  | nil => simp [exec]
  | cons a rest ih =>
    cases a with
    | sendOpen | sendKeepalive | disconnect | negotiate => simp [exec, execAct, ih]
    | _ => exact ih _

private theorem step_next {cfg : Cfg} {s : St} {e : Event} {s' : St} {ok : Bool} {outs : List Out}
    (h : step cfg s e = .next s' ok outs) :
    ∃ acts, arm (ctxOf cfg s) s.state (kindOf cfg e) = .run acts ok ∧
      s' = (exec cfg (openOf e) s acts).1 ∧ outs = (exec cfg (openOf e) s acts).2 := by
  unfold step at h
  split at h
  · cases h
  · cases h
  · next acts ok' ha =>
    injection h with h1 h2 h3
    exact ⟨acts, h2 ▸ ha, h1.symm, h3.symm⟩

/-! ## the arm table: everything the theorems below read off a single arm, checked in one evaluation (`armOk_all`) -/

/-- The `todo!()` arms of `handle_event`, written out. -/
def isTodoArm (c : Ctx) : State → Kind → Bool
  | .idle, .manualStart | .idle, .automaticStart => true
  | .connect, .connectRetryTimerExpires => true
  | .connect, .tcpConnectionFails => c.dopRunning
  | .connect, .bgpHeaderErr | .connect, .bgpOpenMsgErr => true
  | .active, .connectRetryTimerExpires => c.isExact
  | .active, .bgpHeaderErr | .active, .bgpOpenMsgErr => c.notifWithoutOpen
  | .openSent, .tcpCrAcked | .openSent, .tcpConnectionConfirmed => true
  | .openConfirm, .tcpCrAcked | .openConfirm, .tcpConnectionConfirmed => true
  | .established, .tcpCrAcked | .established, .tcpConnectionConfirmed => true
  | _, _ => false

/-- The one other way an arm does not complete: an acceptable OPEN processed while no
connection is attached (`self.connection.as_ref().unwrap()`); frames only arrive over a
connection, so no received message gets there. -/
def isPanicArm (c : Ctx) : State → Kind → Bool
  | .openSent, .bgpOpen true true => !c.conn
  | .active, .bgpOpenDelay true true => !c.conn
  | .connect, .bgpOpenDelay true true => !c.conn
  | _, _ => false

/-- clause 1 on an arm: its final state is the RFC's next state (K5 aside) -/
def nextOk (c : Ctx) (st : State) (k : Kind) (acts : List Act) : Bool :=
  isK5 c st k || rfcNext st k c == some (finalState st acts)

/-- clause 2 on an arm: the NOTIFICATION the RFC names is sent and the connection released -/
def notifOk (st : State) (k : Kind) (acts : List Act) : Bool :=
  match rfcNotif st k with
  | some (code, sub) =>
    drops acts && (notifsOf acts).any fun p => p.1 == code && (match sub with | some sc => p.2 == sc | none => true)
  | none => true

private def kindIsAllowedOpen : Kind → Bool
  | .bgpOpen a _ | .bgpOpenDelay a _ => a
  | _ => false

/-- clause 3 on an arm: OpenConfirm only on an allowed OPEN, Established only from OpenConfirm on a KEEPALIVE -/
private def entersOk (st : State) (k : Kind) (acts : List Act) : Bool :=
  (finalState st acts != .openConfirm || st == .openConfirm || kindIsAllowedOpen k) &&
  (finalState st acts != .established || st == .established || (st == .openConfirm && k == .keepaliveMsg))

private def hearsKind (st : State) : Kind → Bool
  | .keepaliveMsg => st == .openConfirm || st == .established
  | .updateMsg => st == .established
  | _ => false

/-- no other arm calls `hold_timer.reset()` -/
private def resetsOk (st : State) (k : Kind) (acts : List Act) : Bool :=
  !acts.contains .resetHold || hearsKind st k

def armOk (c : Ctx) (st : State) (k : Kind) : Bool :=
  match arm c st k with
  | .todo => isTodoArm c st k && !isPanicArm c st k
  | .panic => !isTodoArm c st k && isPanicArm c st k
  | .run acts ok =>
    !isTodoArm c st k && !isPanicArm c st k && nextOk c st k acts && notifOk st k acts && entersOk st k acts &&
    resetsOk st k acts && (ok || k != .updateMsg)

private theorem armOk_all : checkAll armOk = true := by decide +kernel

private structure RunOk (c : Ctx) (st : State) (k : Kind) (acts : List Act) (ok : Bool) : Prop where
  next : nextOk c st k acts = true
  notif : notifOk st k acts = true
  enters : entersOk st k acts = true
  resets : resetsOk st k acts = true
  update : ok = true ∨ k ≠ .updateMsg

private theorem arm_run {c : Ctx} {st : State} {k : Kind} {acts : List Act} {ok : Bool}
    (h : arm c st k = .run acts ok) : RunOk c st k acts ok := by
  have := checkAll_sound armOk_all c st k
  simp only [armOk, h, Bool.and_eq_true, Bool.or_eq_true, bne_iff_ne] at this
  exact ⟨this.1.1.1.1.2, this.1.1.1.2, this.1.1.2, this.1.2, this.2⟩

/-- The `todo!()` arms are exactly the listed ones. -/
theorem todo_arms (c : Ctx) (st : State) (k : Kind) : arm c st k = .todo ↔ isTodoArm c st k = true := by
  have h := checkAll_sound armOk_all c st k
  unfold armOk at h
  cases ha : arm c st k <;> simp_all

/-- The panicking arms are exactly the listed ones. -/
theorem panic_arms (c : Ctx) (st : State) (k : Kind) : arm c st k = .panic ↔ isPanicArm c st k = true := by
  have h := checkAll_sound armOk_all c st k
  unfold armOk at h
  cases ha : arm c st k <;> simp_all

/-- An input is handled in a state when its arm is neither `todo!()` nor the `unwrap`. -/
def handles (c : Ctx) (st : State) (k : Kind) : Bool := !isTodoArm c st k && !isPanicArm c st k

/-- Every handled (state, event) has an arm that runs to completion. -/
theorem handled_runs (c : Ctx) (st : State) (k : Kind) (h : handles c st k = true) :
    ∃ acts ok, arm c st k = .run acts ok := by
  cases ha : arm c st k with
  | todo => have := (todo_arms c st k).1 ha; simp [handles, this] at h
  | panic => have := (panic_arms c st k).1 ha; simp [handles, this] at h
  | run acts ok => exact ⟨acts, ok, rfl⟩

example : handles ⟨false, true, false, false, true⟩ .openSent (.bgpOpen true true) = true := by decide

/-! ## clause 1 + 2 on the transition table -/

/-- the RFC's NOTIFICATION requirement on what a step emitted and on the connection -/
def NotifConforms (st : State) (k : Kind) (s' : St) (outs : List Out) : Prop :=
  ∀ code sub, rfcNotif st k = some (code, sub) →
    s'.conn = false ∧ ∃ sc, Out.pduNotification code sc ∈ outs ∧ (∀ x, sub = some x → sc = x)

private theorem notifOk_conforms (cfg : Cfg) (o : OpenInfo) (s : St) {st : State} {k : Kind} {acts : List Act}
    (h : notifOk st k acts = true) : NotifConforms st k (exec cfg o s acts).1 (exec cfg o s acts).2 := by
  intro code sub hn
  simp only [notifOk, hn, Bool.and_eq_true, List.any_eq_true, beq_iff_eq] at h
  obtain ⟨hd, p, hp, hpc, hps⟩ := h
  refine ⟨by rw [exec_conn, hd]; simp, p.2, hpc ▸ exec_notifs cfg o s acts p hp, ?_⟩
  rintro x rfl
  simpa using hps

/-- **Clause 2, one step, no exclusion**: in OpenSent / OpenConfirm / Established a
forbidden event, a hold-timer expiry or a manual stop emits the NOTIFICATION the RFC names
and releases the connection. -/
theorem step_notif_conforms (cfg : Cfg) (s : St) (e : Event) (s' : St) (ok : Bool) (outs : List Out)
    (h : step cfg s e = .next s' ok outs) : NotifConforms s.state (kindOf cfg e) s' outs := by
  obtain ⟨acts, ha, rfl, rfl⟩ := step_next h
  exact notifOk_conforms cfg _ s (arm_run ha).notif

/-- **Clause 1 and 2, one step** (`Session::handle_event`), for every configuration, every
session state (all timer flags, any retry counter, any negotiated configuration) and every
event (any OPEN contents): if the arm is handled, the next state is the one RFC 4271 8.2.2
prescribes, and in OpenSent / OpenConfirm / Established a forbidden event, a hold-timer
expiry or a manual stop emits the NOTIFICATION the RFC names (FSM error with the state's
subcode, Hold Timer Expired, Cease) and releases the connection.  `_partial`: the recorded
deviation K5 is excluded by hypothesis (see `step_conforms_fails`). -/
theorem step_conforms_partial (cfg : Cfg) (s : St) (e : Event) (s' : St) (ok : Bool) (outs : List Out)
    (h : step cfg s e = .next s' ok outs)
    (hk : isK5 (ctxOf cfg s) s.state (kindOf cfg e) = false) :
    rfcNext s.state (kindOf cfg e) (ctxOf cfg s) = some s'.state ∧
    NotifConforms s.state (kindOf cfg e) s' outs := by
  refine ⟨?_, step_notif_conforms cfg s e s' ok outs h⟩
  obtain ⟨acts, ha, rfl, rfl⟩ := step_next h
  have h1 := (arm_run ha).next
  simp only [nextOk, hk, Bool.false_or, beq_iff_eq] at h1
  rw [h1, exec_state]

example : isK5 (ctxOf ⟨false, true, true, true, [], 90, [65001]⟩ St.fresh) St.fresh.state
    (kindOf ⟨false, true, true, true, [], 90, [65001]⟩ .manualStop) = false := by decide

/-- The full statement of clause 1 (no exclusion). -/
def StepConformsStatement : Prop :=
  ∀ (cfg : Cfg) (s : St) (e : Event) (s' : St) (ok : Bool) (outs : List Out),
    step cfg s e = .next s' ok outs → rfcNext s.state (kindOf cfg e) (ctxOf cfg s) = some s'.state

/-- K5 witness: in Active, with a configuration that is not an exact address, an expiry of
the ConnectRetryTimer leaves the session Active where the RFC prescribes Connect. -/
theorem step_conforms_fails : ¬ StepConformsStatement := by
  intro h
  have := h ⟨false, true, true, false, [], 90, [65001]⟩ ⟨.active, true, false, false, false, 0, true, none⟩
    .connectRetryTimerExpires ⟨.active, true, false, false, false, 0, true, none⟩ true [] (by decide)
  revert this
  decide

/-- K5 is the only handled arm whose next state differs from the RFC's. -/
theorem k5_is_the_only_deviation (c : Ctx) (st : State) (k : Kind) (acts : List Act) (ok : Bool)
    (h : arm c st k = .run acts ok) (hne : rfcNext st k c ≠ some (finalState st acts)) :
    st = .active ∧ k = .connectRetryTimerExpires ∧ c.isExact = false := by
  have h1 := (arm_run h).next
  simp only [nextOk, Bool.or_eq_true, beq_iff_eq] at h1
  rcases h1 with h1 | h1
  · simp only [isK5, Bool.and_eq_true, beq_iff_eq, Bool.not_eq_true'] at h1
    exact ⟨h1.1.1, h1.1.2, h1.2⟩
  · exact absurd h1 hne

/-! ## inputs: received messages and the public event functions -/

/-- The event `handle_msg` / `manual_start` / `connection_established` feeds to the FSM. -/
def eventOfInput (cfg : Cfg) (s : St) : Input → Option Event
  | .ev e => some e
  | .msgOpen o => some (openEvent s o)
  | .msgKeepalive => some .keepaliveMsg
  | .msgUpdate _ => some .updateMsg
  | .msgNotification code sub => some (notifEvent code sub)
  | .msgRouteRefresh => none
  | .apiStart => some (startEvent cfg)
  | .apiConn => some .tcpConnectionConfirmed
  | .attach => none

private theorem eventOfInput_eq (cfg : Cfg) (s : St) (i : Input) : eventOfInput cfg s i = inputEvent cfg s i := by
  cases i <;> rfl

/-- Specification (RFC 4271 8.1.5, 8.1.2): the RFC event number a received message is.
OPEN → 19 (20 while the DelayOpenTimer runs) when acceptable, else 22; KEEPALIVE → 26;
UPDATE → 27; NOTIFICATION → 24 when it carries OPEN Message Error / Unsupported Version
Number, else 25; ROUTE-REFRESH is not an FSM event. -/
def rfcEventOfInput (cfg : Cfg) (s : St) : Input → Option Nat
  | .ev e => some (rfcEvent (kindOf cfg e))
  | .msgOpen o => some (if asAllowed cfg o && apOk o.ap then (if s.dop then 20 else 19) else 22)
  | .msgKeepalive => some 26
  | .msgUpdate _ => some 27
  | .msgNotification code sub => some (if code == 2 && sub == 1 then 24 else 25)
  | .msgRouteRefresh => none
  | .apiStart => some (if cfg.passive then 4 else 1)
  | .apiConn => some 17
  | .attach => none

/-- The RFC's next state for an input (a non-event leaves the state alone). -/
def rfcNextInput (cfg : Cfg) (s : St) (i : Input) : Option State :=
  match rfcEventOfInput cfg s i with
  | some n => rfcTable cfg.delayOpen s.dop s.state n
  | none => some s.state

/-- `handle_msg` raises the event the RFC defines for the message. -/
theorem handle_msg_raises_rfc_event (cfg : Cfg) (s : St) (i : Input) :
    rfcEventOfInput cfg s i = (eventOfInput cfg s i).map fun e => rfcEvent (kindOf cfg e) := by
  cases i with
  | msgOpen o =>
    simp only [rfcEventOfInput, eventOfInput, Option.map, openEvent]
    cases s.dop <;> rfl
  | msgNotification code sub =>
    simp only [rfcEventOfInput, eventOfInput, Option.map, notifEvent]
    cases (code == 2 && sub == 1) <;> rfl
  | apiStart =>
    simp only [rfcEventOfInput, eventOfInput, Option.map, startEvent]
    cases cfg.passive <;> rfl
  | _ => rfl

def isK5Input (cfg : Cfg) (s : St) (i : Input) : Bool :=
  match eventOfInput cfg s i with
  | some e => isK5 (ctxOf cfg s) s.state (kindOf cfg e)
  | none => false

/-- an input is one `step`, its outputs possibly extended by what is forwarded, or no event -/
private theorem handleInput_next {cfg : Cfg} {s s' : St} {i : Input} {ok : Bool} {outs : List Out}
    (h : handleInput cfg s i = .next s' ok outs) :
    (∃ e ok' outs', inputEvent cfg s i = some e ∧ step cfg s e = .next s' ok' outs' ∧ (∀ x ∈ outs', x ∈ outs) ∧
        ∀ m, Out.appUpdate m ∈ outs → Out.appUpdate m ∈ outs' ∨ i = .msgUpdate m) ∨
    (inputEvent cfg s i = none ∧ outs = [] ∧ (s' = s ∨ s' = { s with conn := true })) := by
  cases i with
  | ev | msgOpen | msgKeepalive => exact .inl ⟨_, ok, outs, rfl, h, fun _ hx => hx, fun _ hm => .inl hm⟩
  | msgUpdate n =>
    simp only [handleInput] at h
    split at h
    · next s2 outs2 hs =>
      injection h with h1 _ h3
      subst h1 h3
      refine .inl ⟨_, true, outs2, rfl, hs, fun x hx => List.mem_append_left _ hx, fun m hm => ?_⟩
      rcases List.mem_append.mp hm with hm | hm
      · exact .inl hm
      · split at hm <;> simp at hm
        exact .inr (by rw [hm])
    · exact .inl ⟨_, ok, outs, rfl, h, fun _ hx => hx, fun _ hm => .inl hm⟩
  | msgNotification | apiStart | apiConn =>
    simp only [handleInput] at h
    split at h
    · next s2 ok2 outs2 hs =>
      injection h with h1 _ h3
      subst h1 h3
      exact .inl ⟨_, ok2, outs2, rfl, hs, fun x hx => by simp [hx], fun m hm => .inl (by simpa using hm)⟩
    · next hr => exact absurd h (hr _ _ _)
  | msgRouteRefresh | attach =>
    injection h with h1 _ h3
    subst h1
    exact .inr ⟨rfl, h3.symm, by simp⟩

/-- **Clause 1 for every kind of input** (injected event, received OPEN / KEEPALIVE /
UPDATE / NOTIFICATION / ROUTE-REFRESH, `manual_start`, `connection_established`). -/
theorem input_conforms_partial (cfg : Cfg) (s s' : St) (i : Input) (ok : Bool) (outs : List Out)
    (h : handleInput cfg s i = .next s' ok outs) (hk : isK5Input cfg s i = false) :
    rfcNextInput cfg s i = some s'.state := by
  have hev := handle_msg_raises_rfc_event cfg s i
  unfold isK5Input at hk
  unfold rfcNextInput
  rw [eventOfInput_eq] at hev hk
  rcases handleInput_next h with ⟨e, ok', outs', he, hs, -, -⟩ | ⟨he, -, hs⟩
  · simp only [he] at hev hk
    rw [hev]
    exact (step_conforms_partial cfg s e s' ok' outs' hs hk).1
  · simp only [he] at hev
    rw [hev]
    rcases hs with rfl | rfl <;> rfl

/-- **Clause 2 for every kind of input**: a forbidden *message* (e.g. an UPDATE received in
OpenSent), a hold-timer expiry or a manual stop in OpenSent / OpenConfirm / Established
emits the NOTIFICATION the RFC names and releases the connection. -/
theorem input_notif_conforms (cfg : Cfg) (s s' : St) (i : Input) (ok : Bool) (outs : List Out)
    (h : handleInput cfg s i = .next s' ok outs) (e : Event) (he : eventOfInput cfg s i = some e) :
    NotifConforms s.state (kindOf cfg e) s' outs := by
  rw [eventOfInput_eq] at he
  rcases handleInput_next h with ⟨e', ok', outs', he', hs, hsub, -⟩ | ⟨he', -⟩
  · cases he.symm.trans he'
    intro code sub hn
    obtain ⟨hc, sc, hm, hsc⟩ := step_notif_conforms cfg s e s' ok' outs' hs code sub hn
    exact ⟨hc, sc, hsub _ hm, hsc⟩
  · cases he.symm.trans he'

/-- the transitions of a history: (state before, input, state after); the history ends at
the first input that is not handled -/
def transitions (cfg : Cfg) : St → List Input → List (St × Input × St)
  | _, [] => []
  | s, i :: rest =>
    match handleInput cfg s i with
    | .next s' _ _ => (s, i, s') :: transitions cfg s' rest
    | _ => []

/-- no input of the history hits a `todo!()` arm (or the `unwrap`) -/
def allHandled (cfg : Cfg) : St → List Input → Bool
  | _, [] => true
  | s, i :: rest =>
    match handleInput cfg s i with
    | .next s' _ _ => allHandled cfg s' rest
    | _ => false

theorem allHandled_covers (cfg : Cfg) (s : St) (ins : List Input) (h : allHandled cfg s ins = true) :
    (transitions cfg s ins).length = ins.length := by
  fun_induction allHandled cfg s ins with
  | case1 => rfl
  | case2 s i rest s' ok outs hi ih => simp [transitions, hi, ih h]
  | case3 => cases h

/-- what the driver prints (`runHist`) and what the theorems speak about (`transitions`)
are the same run: the states after each handled step coincide -/
theorem runHist_transitions (cfg : Cfg) (s : St) (ins : List Input) :
    (runHist cfg s ins).filterMap (fun r => match r with | .next s' _ _ => some s' | _ => none)
      = (transitions cfg s ins).map (fun t => t.2.2) := by
  induction ins generalizing s with
  | nil => rfl
  | cons i rest ih =>
    unfold runHist transitions
    cases hi : handleInput cfg s i with
    | todo | panic => simp
    | next s' ok outs => simp [ih s']

/-- **Clause 1 for every history** (any length, any inputs, from any session state): every
transition of the history goes to the state RFC 4271 8.2.2 prescribes – by induction over
the history, no depth bound.  `_partial`: transitions that are the recorded deviation K5
are excluded. -/
theorem trace_conforms_partial (cfg : Cfg) (s : St) (ins : List Input) :
    ∀ t ∈ transitions cfg s ins, isK5Input cfg t.1 t.2.1 = false →
      rfcNextInput cfg t.1 t.2.1 = some t.2.2.state := by
  intro t ht hk
  fun_induction transitions cfg s ins with
  | case1 | case3 => cases ht
  | case2 s i rest s' ok outs hi ih =>
    rcases List.mem_cons.mp ht with rfl | ht
    · exact input_conforms_partial cfg s s' i ok outs hi hk
    · exact ih ht

example : allHandled ⟨false, true, true, false, [4], 90, [65001]⟩ St.fresh
    [.apiStart, .apiConn, .msgOpen ⟨65001, 30, [(4, 3)]⟩, .msgKeepalive, .msgUpdate 2,
     .ev .keepaliveTimerExpires, .msgNotification 6 2] = true := by decide

/-! ## clause 3: Established only after an accepted OPEN from an allowed AS, then a KEEPALIVE -/

/-- the input is an OPEN (injected or received) from an AS the configuration allows -/
def isOpenFromAllowed (cfg : Cfg) : Input → Bool
  | .ev (.bgpOpen o) | .ev (.bgpOpenDelay o) | .msgOpen o => asAllowed cfg o
  | _ => false

/-- the input is a KEEPALIVE (injected or received) -/
def isKeepaliveInput : Input → Bool
  | .ev .keepaliveMsg | .msgKeepalive => true
  | _ => false

/-- the peer is heard from in the sense of the HoldTimer (RFC 4271 8.2.2): a KEEPALIVE in OpenConfirm or
Established, an UPDATE in Established -/
def hears (st : State) : Input → Bool
  | .msgKeepalive | .ev .keepaliveMsg => st == .openConfirm || st == .established
  | .msgUpdate _ | .ev .updateMsg => st == .established
  | _ => false

private theorem input_kind (cfg : Cfg) (s : St) (i : Input) :
    match inputEvent cfg s i with
    | some e => isOpenFromAllowed cfg i = kindIsAllowedOpen (kindOf cfg e) ∧
        isKeepaliveInput i = (kindOf cfg e == .keepaliveMsg) ∧ hears s.state i = hearsKind s.state (kindOf cfg e)
    | none => isOpenFromAllowed cfg i = false ∧ isKeepaliveInput i = false ∧ hears s.state i = false := by
  cases i with
  | ev e => cases e <;> exact ⟨rfl, rfl, rfl⟩
  | msgOpen | msgNotification | apiStart =>
    simp only [inputEvent, openEvent, notifEvent, startEvent]
    split <;> exact ⟨rfl, rfl, rfl⟩
  | _ => exact ⟨rfl, rfl, rfl⟩

private theorem enters {cfg : Cfg} {s s' : St} {i : Input} {ok : Bool} {outs : List Out}
    (h : handleInput cfg s i = .next s' ok outs) (hne : s'.state ≠ s.state) :
    (s'.state = .openConfirm → isOpenFromAllowed cfg i = true) ∧
    (s'.state = .established → s.state = .openConfirm ∧ isKeepaliveInput i = true) := by
  rcases handleInput_next h with ⟨e, ok', outs', he, hs, -, -⟩ | ⟨-, -, hs⟩
  · obtain ⟨acts, ha, rfl, -⟩ := step_next hs
    have hi := input_kind cfg s i
    have ht := (arm_run ha).enters
    rw [exec_state] at hne ⊢
    simp only [he] at hi
    simp only [entersOk, Bool.and_eq_true, Bool.or_eq_true, bne_iff_ne, beq_iff_eq] at ht
    rw [hi.1, hi.2.1, beq_iff_eq]
    have out : ∀ st, finalState s.state acts = st → ¬ (finalState s.state acts ≠ st ∨ s.state = st) :=
      fun st h' hc => hc.elim (· h') fun hc => hne (h'.trans hc.symm)
    exact ⟨fun h' => ht.1.resolve_left (out _ h'), fun h' => ht.2.resolve_left (out _ h')⟩
  · rcases hs with rfl | rfl <;> exact absurd rfl hne

theorem openConfirm_entered_by_allowed_open (cfg : Cfg) (s s' : St) (i : Input) (ok : Bool) (outs : List Out)
    (h : handleInput cfg s i = .next s' ok outs) (h' : s'.state = .openConfirm) (hs : s.state ≠ .openConfirm) :
    isOpenFromAllowed cfg i = true :=
  (enters h fun hc => hs (hc ▸ h')).1 h'

theorem established_entered_by_keepalive (cfg : Cfg) (s s' : St) (i : Input) (ok : Bool) (outs : List Out)
    (h : handleInput cfg s i = .next s' ok outs) (h' : s'.state = .established) (hs : s.state ≠ .established) :
    s.state = .openConfirm ∧ isKeepaliveInput i = true :=
  (enters h fun hc => hs (hc ▸ h')).2 h'

/-- Ghost history of a session: what has been seen since the session was last outside
OpenConfirm / Established. -/
structure Ghost where
  /-- the current OpenConfirm/Established episode began with an OPEN from an allowed AS -/
  openAccepted : Bool
  /-- … and Established was then entered from OpenConfirm by a KEEPALIVE -/
  keepaliveAfter : Bool
  deriving DecidableEq, Repr

/-- update of the ghost history by one transition; it looks only at the input and at the
states before and after -/
def ghostStep (cfg : Cfg) (g : Ghost) (before : State) (i : Input) (after : State) : Ghost :=
  if after = .openConfirm then
    (if before = .openConfirm then g else ⟨isOpenFromAllowed cfg i, false⟩)
  else if after = .established then
    (if before = .established then g
     else ⟨g.openAccepted && before == .openConfirm, isKeepaliveInput i && before == .openConfirm⟩)
  else ⟨false, false⟩

/-- the ghost history along a history of inputs -/
def ghostRun (cfg : Cfg) : St → Ghost → List Input → St × Ghost
  | s, g, [] => (s, g)
  | s, g, i :: rest =>
    match handleInput cfg s i with
    | .next s' _ _ => ghostRun cfg s' (ghostStep cfg g s.state i s'.state) rest
    | _ => (s, g)

/-- what the ghost history knows in OpenConfirm / Established: the invariant of `ghostRun` (and of the byte-driven
runs of C09) -/
def GhostInv (s : St) (g : Ghost) : Prop :=
  (s.state = .openConfirm → g.openAccepted = true) ∧
  (s.state = .established → g.openAccepted = true ∧ g.keepaliveAfter = true)

theorem GhostInv.of_outside {s : St} (h : s.state ≠ .openConfirm ∧ s.state ≠ .established) (g : Ghost) :
    GhostInv s g :=
  ⟨fun h1 => absurd h1 h.1, fun h3 => absurd h3 h.2⟩

theorem ghostInv_step (cfg : Cfg) (s s' : St) (g : Ghost) (i : Input) (ok : Bool) (outs : List Out)
    (h : handleInput cfg s i = .next s' ok outs) (hinv : GhostInv s g) :
    GhostInv s' (ghostStep cfg g s.state i s'.state) := by
  refine ⟨fun h1 => ?_, fun h3 => ?_⟩
  · -- in OpenConfirm: it stayed there, or entered it on an OPEN from an allowed AS
    simp only [ghostStep, h1, if_true]
    split
    · exact hinv.1 ‹_›
    · exact openConfirm_entered_by_allowed_open cfg s s' i ok outs h h1 ‹_›
  · -- in Established: it stayed there, or entered it from OpenConfirm on a KEEPALIVE
    simp only [ghostStep, h3, reduceCtorEq, if_false, if_true]
    split
    · exact hinv.2 ‹_›
    · have := established_entered_by_keepalive cfg s s' i ok outs h h3 ‹_›
      simp [this.1, this.2, hinv.1 this.1]

/-- **Clause 3**: for every history (any length) started outside OpenConfirm / Established,
whenever the session is Established its ghost history says: an OPEN from an allowed AS was
accepted (it took the session into OpenConfirm), the session stayed in OpenConfirm, and a
KEEPALIVE then took it to Established.  Invariant by induction over the history. -/
theorem established_only_after_open_keepalive (cfg : Cfg) (s0 : St) (ins : List Input)
    (h0 : s0.state ≠ .openConfirm ∧ s0.state ≠ .established) :
    let r := ghostRun cfg s0 ⟨false, false⟩ ins
    r.1.state = .established → r.2.openAccepted = true ∧ r.2.keepaliveAfter = true := by
  have key (s : St) (g : Ghost) (hi : GhostInv s g) :
      GhostInv (ghostRun cfg s g ins).1 (ghostRun cfg s g ins).2 := by
    fun_induction ghostRun cfg s g ins with
    | case1 | case3 => exact hi
    | case2 s g i rest s' ok outs hh ih => exact ih (ghostInv_step cfg s s' g i ok outs hh hi)
  exact (key s0 _ (.of_outside h0 _)).2

example : (ghostRun ⟨false, true, true, false, [], 90, [65001]⟩ St.fresh ⟨false, false⟩
    [.apiStart, .apiConn, .msgOpen ⟨65001, 30, []⟩, .msgKeepalive]).1.state = .established := by decide

/-! ## clause 4: an UPDATE reaches the application iff Established -/

/-- **Clause 4**: a received UPDATE is handed to the application if and only if the session
is Established when it is processed (and it is that UPDATE). -/
theorem update_to_app_iff_established (cfg : Cfg) (s s' : St) (n : Nat) (ok : Bool) (outs : List Out)
    (h : handleInput cfg s (.msgUpdate n) = .next s' ok outs) :
    (Out.appUpdate n ∈ outs ↔ s.state = .established) ∧ (∀ m, Out.appUpdate m ∈ outs → m = n) := by
  simp only [handleInput] at h
  split at h
  · next s2 outs2 hs =>
    injection h with _ _ h3
    obtain ⟨acts, -, -, rfl⟩ := step_next hs
    have hno := exec_no_appUpdate cfg (openOf .updateMsg) s acts
    subst h3
    by_cases he : s.state = .established <;> simp [he, hno]
  · -- `handle_event(UpdateMsg)` never returns `Err`
    next hr =>
    obtain ⟨acts, ha, -, -⟩ := step_next h
    rcases (arm_run ha).update with rfl | hk
    · exact absurd h (hr _ _)
    · exact absurd rfl hk

/-- No other input hands an UPDATE to the application. -/
theorem no_update_without_update (cfg : Cfg) (s s' : St) (i : Input) (ok : Bool) (outs : List Out)
    (h : handleInput cfg s i = .next s' ok outs) (hi : ∀ n, i ≠ .msgUpdate n) :
    ∀ m, Out.appUpdate m ∉ outs := by
  intro m hm
  rcases handleInput_next h with ⟨e, ok', outs', -, hs, -, hup⟩ | ⟨-, rfl, -⟩
  · rcases hup m hm with hm' | rfl
    · obtain ⟨acts, -, -, rfl⟩ := step_next hs
      exact exec_no_appUpdate cfg _ s acts m hm'
    · exact hi m rfl
  · cases hm

/-! ## `Session::tick`: frames read from the socket, connection loss (partial) -/

/-- The RFC's next state for what `tick` processes: a frame is its message's event; the
peer closing the connection is TcpConnectionFails (Event 18). -/
def rfcNextTick (cfg : Cfg) (s : St) : TickInput → Option State
  | .frame m => rfcNextInput cfg s m
  | .direct i => rfcNextInput cfg s i
  | .closed => rfcTable cfg.delayOpen s.dop s.state 18
  | .readErr => rfcTable cfg.delayOpen s.dop s.state 21        -- a malformed frame is BGPHeaderErr (Event 21); a close
                                                               -- in mid-frame (Event 18) has the same RFC next state except from OpenSent;
                                                               -- both are K8 and excluded from `tick_conforms_partial`
  | .cmdDisconnect => rfcTable cfg.delayOpen s.dop s.state 2   -- a stop command is ManualStop (Event 2)
  | .cmdKeepalive => some s.state                              -- no FSM event
  | .cmdDisconnectWith _ => rfcTable cfg.delayOpen s.dop s.state 2   -- a stop command, whatever reason it names

/-- K8, the recorded deviation of `tick` itself: it sets `State::Connect` when `handle_msg`
returned `Err`, when the connection was closed and when `read_frame` failed (malformed frame, peer
closing in the middle of a frame: no BgpHeaderErr / TcpConnectionFails event is raised, no
NOTIFICATION sent) (session.rs:284-322). -/
def isK8 (t : TickInput) (ok : Bool) : Bool :=
  match t with
  | .closed => true
  | .readErr => true
  | .frame _ => !ok
  | _ => false

def inputOfTick : TickInput → Option Input
  | .frame m => some m
  | .direct i => some i
  | _ => none

/-- The full statement for `tick` (no exclusion). -/
def TickConformsStatement : Prop :=
  ∀ (cfg : Cfg) (s : St) (t : TickInput) (s' : St) (ok : Bool) (outs : List Out),
    tickStep cfg s t = .res (.next s' ok outs) → rfcNextTick cfg s t = some s'.state

/-- K8 witness: an OPEN from a foreign AS read by `tick` in OpenSent ends in Connect; the
RFC prescribes Idle (and the arm of `handle_event` had gone there). -/
theorem tick_conforms_fails : ¬ TickConformsStatement := by
  intro h
  have := h ⟨false, true, true, true, [], 90, [65001]⟩ ⟨.openSent, true, false, false, false, 0, true, none⟩
    (.frame (.msgOpen ⟨65002, 90, []⟩))
    ⟨.connect, false, false, false, false, 0, false, none⟩ false [.pduNotification 2 2] (by decide)
  revert this
  decide

theorem tickStep_frame {cfg : Cfg} {s s' : St} {m : Input} {ok : Bool} {outs : List Out}
    (h : tickStep cfg s (.frame m) = .res (.next s' ok outs)) :
    ∃ s2, handleInput cfg s m = .next s2 ok outs ∧ s' = if ok then s2 else { s2 with state := .connect } := by
  simp only [tickStep] at h
  split at h
  · cases h
  · split at h
    · next s2 outs2 hh =>
      cases h
      exact ⟨s2, hh, rfl⟩
    · next hr =>
      injection h with h
      cases ok with
      | false => exact absurd h (hr _ _)
      | true => exact ⟨s', h, rfl⟩

private theorem cmdDisconnect_next {cfg : Cfg} {s s' : St} {r : Option Reason} {ok : Bool} {outs : List Out}
    (h : tickStep cfg s (.cmdDisconnectWith r) = .res (.next s' ok outs)) :
    s'.conn = false ∧ s'.state = .idle ∧ ok = true ∧
      outs = (r.map fun r => Out.pduNotification r.notif.1 r.notif.2).toList := by
  cases h
  cases r <;> exact ⟨rfl, rfl, rfl, rfl⟩

private theorem cmdDisconnect_eq (cfg : Cfg) (s : St) :
    tickStep cfg s .cmdDisconnect = tickStep cfg s (.cmdDisconnectWith (some .shutdown)) := rfl

private theorem rfcTable_stop (d r : Bool) (st : State) : rfcTable d r st 2 = some .idle := by
  cases st <;> rfl

/-- **Clause 1 through `tick`**: a frame that `handle_msg` processed with `Ok` leaves the
session in the state the RFC prescribes.  `_partial`: K8 (and K5) excluded by hypothesis;
the `select!` between frames, commands and timers is not modelled. -/
theorem tick_conforms_partial (cfg : Cfg) (s s' : St) (t : TickInput) (ok : Bool) (outs : List Out)
    (h : tickStep cfg s t = .res (.next s' ok outs)) (hk8 : isK8 t ok = false)
    (hk5 : ∀ i, inputOfTick t = some i → isK5Input cfg s i = false) :
    rfcNextTick cfg s t = some s'.state := by
  cases t with
  | closed | readErr => cases hk8
  | cmdKeepalive => cases h; rfl
  | cmdDisconnect => rw [cmdDisconnect_eq] at h; rw [(cmdDisconnect_next h).2.1]; exact rfcTable_stop _ _ _
  | cmdDisconnectWith r => rw [(cmdDisconnect_next h).2.1]; exact rfcTable_stop _ _ _
  | direct i =>
    injection h with h
    exact input_conforms_partial cfg s s' i ok outs h (hk5 i rfl)
  | frame m =>
    obtain ⟨s2, hh, rfl⟩ := tickStep_frame h
    cases ok with
    | false => cases hk8
    | true => exact input_conforms_partial cfg s s2 m true outs hh (hk5 m rfl)

/-! ## clause 2 through `Session::tick` (the stop path production code has) -/

/-- **Clause 2 for `Command::Disconnect(reason)` with the other reasons that carry a NOTIFICATION**
(ConnectionRejected, Reconfiguration, Deconfigured: Cease 6/5, 6/6, 6/3; HoldTimerExpired: 4/0 - and the
reasons the arms of `handle_event` use, which the command channel accepts too): in EVERY state the
NOTIFICATION of the reason is sent, the connection is released and the FSM is left in Idle.

A SANITY LEMMA about the model, not independent evidence for clause 2: `tickStep .. (.cmdDisconnectWith (some r))`
is by definition `execAct (.disconnect r)`, whose output is `Reason.notif r`, and the conclusion uses the same
table.  WHICH code / subcode belongs to which reason (`Reason.notif`, `cmd_disconnect_admin_is_cease` = `rfl` on
that table) is the model's transcription of session.rs:184-194, pinned by the `t .. cDr / cDc / cDd / cDh / cDo`
correspondence lines; the oracle accepts any Cease subcode for a stop. -/
theorem cmd_disconnect_with_notifies (cfg : Cfg) (s s' : St) (r : Reason) (ok : Bool) (outs : List Out)
    (h : tickStep cfg s (.cmdDisconnectWith (some r)) = .res (.next s' ok outs)) :
    s'.conn = false ∧ Out.pduNotification r.notif.1 r.notif.2 ∈ outs ∧ s'.state = .idle ∧ ok = true := by
  obtain ⟨hc, hs, hok, rfl⟩ := cmdDisconnect_next h
  exact ⟨hc, List.mem_singleton.mpr rfl, hs, hok⟩

/-- **Clause 2 for `Command::Disconnect(Shutdown)`**, the application's stop command handled
inline by `Session::tick` (no `ManualStop` event is raised by production code): in EVERY state
and for every session the command sends the Cease NOTIFICATION (6/2, Administrative Shutdown),
releases the connection and leaves the FSM in Idle. -/
theorem cmd_disconnect_cease (cfg : Cfg) (s s' : St) (ok : Bool) (outs : List Out)
    (h : tickStep cfg s .cmdDisconnect = .res (.next s' ok outs)) :
    s'.conn = false ∧ Out.pduNotification 6 2 ∈ outs ∧ s'.state = .idle ∧ ok = true :=
  cmd_disconnect_with_notifies cfg s s' .shutdown ok outs (cmdDisconnect_eq cfg s ▸ h)

/-- the three administrative reasons are Cease NOTIFICATIONs (RFC 4486 subcodes 5, 6, 3) -/
theorem cmd_disconnect_admin_is_cease :
    Reason.rejected.notif = (6, 5) ∧ Reason.reconfiguration.notif = (6, 6) ∧ Reason.deconfigured.notif = (6, 3) :=
  ⟨rfl, rfl, rfl⟩

/-- `Command::Disconnect(DisconnectReason::Other)`: the code as it is sends NO NOTIFICATION (session.rs
`DisconnectReason::Other => { //todo!(); debug!(..) }`); the connection is still released and the FSM left in
Idle.  (Whether an unspecific stop should send a Cease is not decided by the property, which names the
manual stop; the oracle abstains on this step, the model agreement pins the behaviour.) -/
theorem cmd_disconnect_other_silent (cfg : Cfg) (s s' : St) (ok : Bool) (outs : List Out)
    (h : tickStep cfg s (.cmdDisconnectWith none) = .res (.next s' ok outs)) :
    s'.conn = false ∧ outs = [] ∧ s'.state = .idle ∧ ok = true := by
  obtain ⟨hc, hs, hok, rfl⟩ := cmdDisconnect_next h
  exact ⟨hc, rfl, hs, hok⟩

example : tickStep ⟨false, true, true, true, [], 90, [65001]⟩ ⟨.established, false, true, true, false, 0, true, none⟩
    (.cmdDisconnectWith (some .reconfiguration))
    = .res (.next ⟨.idle, false, false, false, false, 0, false, none⟩ true [.pduNotification 6 6]) := by decide

/-- ... in the RFC's words: the stop command satisfies what 8.2.2 asks of ManualStop (Event 2) in
the states that follow the sending of an OPEN. -/
theorem cmd_disconnect_notif_conforms (cfg : Cfg) (s s' : St) (ok : Bool) (outs : List Out)
    (h : tickStep cfg s .cmdDisconnect = .res (.next s' ok outs)) :
    NotifConforms s.state .manualStop s' outs := by
  -- `cmdDisconnectActs` pass `notifOk` for ManualStop in every state
  cases h
  exact notifOk_conforms cfg defaultOpen s (acts := cmdDisconnectActs) (by cases s.state <;> rfl)

/-- **Clause 2 for everything `tick` processes**: a frame read from the socket (or an input fed
directly) whose event the RFC answers with a NOTIFICATION in OpenSent / OpenConfirm /
Established – a forbidden message, a hold-timer expiry, a stop – emits that NOTIFICATION and
releases the connection, also when `tick` then overrides the state (K8 concerns the state
only). No exclusion; `s` is any session state, so this holds at every position of every history
(`runTick` is `tickStep` iterated). -/
theorem tick_notif_conforms (cfg : Cfg) (s s' : St) (t : TickInput) (ok : Bool) (outs : List Out)
    (h : tickStep cfg s t = .res (.next s' ok outs)) (i : Input) (hi : inputOfTick t = some i)
    (e : Event) (he : eventOfInput cfg s i = some e) :
    NotifConforms s.state (kindOf cfg e) s' outs := by
  cases t with
  | direct j =>
    cases hi
    injection h with h
    exact input_notif_conforms cfg s s' i ok outs h e he
  | frame m =>
    cases hi
    obtain ⟨s2, hh, rfl⟩ := tickStep_frame h
    have hn := input_notif_conforms cfg s s2 i ok outs hh e he
    cases ok <;> exact hn
  | _ => cases hi

example : tickStep ⟨false, true, true, true, [], 90, [65001]⟩ ⟨.established, false, true, true, false, 0, true, none⟩ .cmdDisconnect
    = .res (.next ⟨.idle, false, false, false, false, 0, false, none⟩ true [.pduNotification 6 2]) := by decide

/-! ## the outgoing PDU queue: `send_pdu` is a `try_send` (known finding K14) -/

/-- everything a step sends reaches the queue when there is room for its PDUs -/
theorem accepted_all (room : Nat) (outs : List Out) (h : pduCount outs ≤ room) :
    accepted room outs = outs := by
  fun_induction accepted room outs with
  | case1 => rfl
  | case2 o rest hp => simp [pduCount, List.filter, hp] at h
  | case3 o rest hp r ih => rw [ih (by simpa [pduCount, List.filter, hp] using h)]
  | case4 room o rest hp ih => rw [ih (by simpa [pduCount, List.filter, hp] using h)]

/-- what goes to the application channel (`send().await`) does not depend on the outgoing queue:
clauses 3 and 4 are not affected by K14 -/
theorem accepted_keeps_app (room : Nat) (outs : List Out) (o : Out) (ho : o.isPdu = false) :
    o ∈ accepted room outs ↔ o ∈ outs := by
  fun_induction accepted room outs with
  | case1 => rfl
  | case2 x rest hx ih | case3 x rest hx r ih =>
    have hne : o ≠ x := fun h => by rw [h, hx] at ho; cases ho
    simp [ih, hne]
  | case4 room x rest hx ih => simp [ih]

/-- The full statement of clause 2 at the point where the PDU leaves the session: the
NOTIFICATION the RFC names is in the outgoing queue after the step, whatever room the
application left in it. -/
def NotifQueuedStatement : Prop :=
  ∀ (cfg : Cfg) (s : St) (e : Event) (s' : St) (ok : Bool) (outs : List Out) (room : Nat),
    step cfg s e = .next s' ok outs → NotifConforms s.state (kindOf cfg e) s' (accepted room outs)

/-- K14 witness: Established, HoldTimer_Expires, no free slot in `pdu_out`: the session goes to
Idle and releases the connection, the Hold Timer Expired NOTIFICATION is dropped by `try_send`
(request `h d0n1p1x1a0h90 6:01101 q0 e6`). -/
theorem notif_queued_fails : ¬ NotifQueuedStatement := by
  intro h
  have := h ⟨false, true, true, true, [], 90, [65001]⟩ ⟨.established, false, true, true, false, 0, true, none⟩
    .holdTimerExpires ⟨.idle, false, false, false, false, 1, false, none⟩ true [.pduNotification 4 0] 0 (by decide)
    4 none (by decide)
  obtain ⟨_, sc, hm, _⟩ := this
  simp [accepted, Out.isPdu] at hm

/-- **Clause 2 at the outgoing queue**, `_partial`: with room for the PDUs of the step (in every
arm the NOTIFICATION is the first PDU sent, so one free slot suffices for it) the NOTIFICATION
the RFC names is queued and the connection released. Excluded: a full queue (K14,
`notif_queued_fails`). -/
theorem notif_queued_partial (cfg : Cfg) (s : St) (e : Event) (s' : St) (ok : Bool) (outs : List Out)
    (room : Nat) (h : step cfg s e = .next s' ok outs) (hroom : pduCount outs ≤ room) :
    NotifConforms s.state (kindOf cfg e) s' (accepted room outs) := by
  rw [accepted_all room outs hroom]
  exact step_notif_conforms cfg s e s' ok outs h

example : pduCount [Out.pduNotification 4 0] ≤ 1 := by decide

/-! ## the timer branches of `Session::tick`: `Clock` and `tickTimer` -/

/-- the three timers `Session::tick` polls -/
inductive Tmr where
  | ka | hold | dop
  deriving DecidableEq, Repr

/-- the expiry event `tick` raises for a timer (session.rs:326-334) -/
def Tmr.event : Tmr → Event
  | .ka => .keepaliveTimerExpires
  | .hold => .holdTimerExpires
  | .dop => .delayOpenTimerExpires

/-- the interval `Session::new` gives the timer (hold = the local hold time, keepalive = hold / 3, delay-open 10 s) -/
def Tmr.interval (cfg : Cfg) : Tmr → Nat
  | .ka => kaInterval cfg
  | .hold => holdInterval cfg
  | .dop => dopInterval

/-- the timer's next tick on the clock -/
def clockGet (c : Clock) : Tmr → Option Nat
  | .ka => c.ka
  | .hold => c.hold
  | .dop => c.dop

/-- the timer's running flag in the session state (`Timer::is_running`) -/
def running (s : St) : Tmr → Bool
  | .ka => s.ka
  | .hold => s.hold
  | .dop => s.dop

/-- The clock is consistent with the session state: a timer has a next tick only if it is running. -/
def ClockOk (s : St) (c : Clock) : Prop :=
  ∀ x t, clockGet c x = some t → running s x = true

/-- the clock has a next tick for exactly the timers that run with a non-zero interval (`ClockOk` is one half) -/
def ClockExact (cfg : Cfg) (s : St) (c : Clock) : Prop :=
  ∀ x, (clockGet c x).isSome = (running s x && decide (Tmr.interval cfg x ≠ 0))

private theorem dueAt_eq {now i t : Nat} (h : dueAt now i = some t) : i ≠ 0 ∧ t = now + i := by
  unfold dueAt at h
  split at h
  · cases h
  · next hi => injection h with h; exact ⟨hi, h.symm⟩

private theorem dueAt_some {now i t : Nat} (h : dueAt now i = some t) : now < t := by
  obtain ⟨hi, rfl⟩ := dueAt_eq h
  omega

private theorem dueAt_isSome (now i : Nat) : (dueAt now i).isSome = decide (i ≠ 0) := by
  unfold dueAt
  split <;> simp [*]

/-- A statement leaves a timer alone, starts it (`reset()` of a running timer is a start from now) or stops it;
the entry on the clock and the running flag move together. -/
private theorem act_timer (cfg : Cfg) (o : OpenInfo) (s : St) (c : Clock) (a : Act) (x : Tmr) :
    (clockGet (clockAct cfg s c a) x = clockGet c x ∧ running (execAct cfg o s a).1 x = running s x) ∨
    (clockGet (clockAct cfg s c a) x = dueAt c.now (x.interval cfg) ∧ running (execAct cfg o s a).1 x = true) ∨
    (clockGet (clockAct cfg s c a) x = none ∧ running (execAct cfg o s a).1 x = false) := by
  cases a with
  | startKa => cases x with
    | ka => exact .inr (.inl ⟨rfl, rfl⟩)
    | _ => exact .inl ⟨rfl, rfl⟩
  | startHold => cases x with
    | hold => exact .inr (.inl ⟨rfl, rfl⟩)
    | _ => exact .inl ⟨rfl, rfl⟩
  | startDop => cases x with
    | dop => exact .inr (.inl ⟨rfl, rfl⟩)
    | _ => exact .inl ⟨rfl, rfl⟩
  | stopDop => cases x with
    | dop => exact .inr (.inr ⟨rfl, rfl⟩)
    | _ => exact .inl ⟨rfl, rfl⟩
  | disconnect r => cases x with
    | dop => exact .inl ⟨rfl, rfl⟩
    | _ => exact .inr (.inr ⟨rfl, rfl⟩)
  | resetHold =>
    simp only [clockAct]
    split
    · next hh => cases x with
      | hold => exact .inr (.inl ⟨rfl, hh⟩)
      | _ => exact .inl ⟨rfl, rfl⟩
    · exact .inl ⟨rfl, rfl⟩
  | _ => exact .inl ⟨rfl, rfl⟩

private theorem clockAct_now (cfg : Cfg) (s : St) (c : Clock) (a : Act) : (clockAct cfg s c a).now = c.now := by
  fun_cases clockAct cfg s c a <;> rfl

private theorem clockAct_ok {cfg : Cfg} {o : OpenInfo} {s : St} {c : Clock} {a : Act} (h : ClockOk s c) :
    ClockOk (execAct cfg o s a).1 (clockAct cfg s c a) := by
  intro x t hx
  rcases act_timer cfg o s c a x with ⟨hc, hr⟩ | ⟨-, hr⟩ | ⟨hc, -⟩
  · rw [hr]; exact h x t (hc ▸ hx)
  · exact hr
  · rw [hc] at hx; cases hx

private def HoldAfter (cfg : Cfg) (L : Nat) (c : Clock) : Prop :=
  ∀ t, c.hold = some t → L + holdInterval cfg ≤ t

private theorem clockAct_hold {cfg : Cfg} {s : St} {c : Clock} {a : Act} {L : Nat} (hL : L ≤ c.now)
    (h : HoldAfter cfg L c) : HoldAfter cfg L (clockAct cfg s c a) := by
  intro t ht
  rcases act_timer cfg defaultOpen s c a .hold with ⟨hc, -⟩ | ⟨hc, -⟩ | ⟨hc, -⟩ <;>
    simp only [clockGet] at hc <;> rw [hc] at ht
  · exact h t ht
  · obtain ⟨-, rfl⟩ := dueAt_eq ht
    exact Nat.add_le_add_right hL _
  · cases ht

private theorem clockExec_now {cfg : Cfg} {o : OpenInfo} {s : St} {c : Clock} (acts : List Act) :
    (clockExec cfg o s c acts).now = c.now := by
  induction acts generalizing s c with
  | nil => rfl
  | cons a rest ih => simp only [clockExec, ih, clockAct_now]

private theorem clockExec_ok {cfg : Cfg} {o : OpenInfo} {s : St} {c : Clock} (acts : List Act) (h : ClockOk s c) :
    ClockOk (exec cfg o s acts).1 (clockExec cfg o s c acts) := by
  induction acts generalizing s c with
  | nil => exact h
  | cons a rest ih => exact ih (clockAct_ok h)

private theorem clockExec_hold {cfg : Cfg} {o : OpenInfo} {s : St} {c : Clock} {L : Nat} (acts : List Act)
    (hL : L ≤ c.now) (h : HoldAfter cfg L c) : HoldAfter cfg L (clockExec cfg o s c acts) := by
  induction acts generalizing s c with
  | nil => exact h
  | cons a rest ih => exact ih (by rw [clockAct_now]; exact hL) (clockAct_hold hL h)

private theorem actsOfEvent_eq {cfg : Cfg} {s : St} {e : Event} {acts : List Act} {ok : Bool}
    (h : arm (ctxOf cfg s) s.state (kindOf cfg e) = .run acts ok) : actsOfEvent cfg s e = acts := by
  simp only [actsOfEvent, h]

theorem clockOk_input (cfg : Cfg) (s s' : St) (c : Clock) (i : Input) (ok : Bool) (outs : List Out)
    (hc : ClockOk s c) (h : handleInput cfg s i = .next s' ok outs) : ClockOk s' (clockInput cfg s c i) := by
  unfold clockInput
  rcases handleInput_next h with ⟨e, ok', outs', he, hs, -, -⟩ | ⟨he, -, hs⟩ <;> simp only [he]
  · obtain ⟨acts, ha, rfl, -⟩ := step_next hs
    rw [actsOfEvent_eq ha]
    exact clockExec_ok acts hc
  · rcases hs with rfl | rfl <;> exact hc

private theorem clockGet_ofSt (cfg : Cfg) (s : St) (x : Tmr) :
    clockGet (Clock.ofSt cfg s) x = if running s x then dueAt 0 (x.interval cfg) else none := by
  cases x <;> rfl

theorem clockOk_ofSt (cfg : Cfg) (s : St) : ClockOk s (Clock.ofSt cfg s) := by
  intro x t hx
  rw [clockGet_ofSt] at hx
  split at hx
  · assumption
  · cases hx

theorem clockOk_wait (s : St) (c : Clock) (d : Nat) (hc : ClockOk s c) : ClockOk s (clockWait c d) :=
  hc

theorem clockExact_ofSt (cfg : Cfg) (s : St) : ClockExact cfg s (Clock.ofSt cfg s) := by
  intro x
  rw [clockGet_ofSt]
  cases running s x
  · rfl
  · exact dueAt_isSome 0 _

theorem clockExact_act (cfg : Cfg) (o : OpenInfo) (s : St) (c : Clock) (a : Act) (h : ClockExact cfg s c) :
    ClockExact cfg (execAct cfg o s a).1 (clockAct cfg s c a) := by
  intro x
  rcases act_timer cfg o s c a x with ⟨hc, hr⟩ | ⟨hc, hr⟩ | ⟨hc, hr⟩
  · rw [hc, hr]; exact h x
  · rw [hc, hr, dueAt_isSome, Bool.true_and]
  · rw [hc, hr]; rfl

/-- the candidates `tickTimer` chooses from -/
def cands (c : Clock) : List (Nat × Event) :=
  (match c.ka with | some t => [(t, Event.keepaliveTimerExpires)] | none => []) ++
  (match c.hold with | some t => [(t, Event.holdTimerExpires)] | none => []) ++
  (match c.dop with | some t => [(t, Event.delayOpenTimerExpires)] | none => [])

private theorem mem_slot {o : Option Nat} {e0 e : Event} {t : Nat}
    (h : (t, e) ∈ (match o with | some t => [(t, e0)] | none => [])) : e = e0 ∧ o = some t := by
  cases o with
  | none => cases h
  | some t' => cases List.mem_singleton.mp h; exact ⟨rfl, rfl⟩

private theorem mem_cands (c : Clock) (t : Nat) (e : Event) :
    (t, e) ∈ cands c ↔ ∃ x, e = x.event ∧ clockGet c x = some t := by
  constructor
  · intro h
    simp only [cands, List.mem_append] at h
    rcases h with (h | h) | h
    · exact ⟨.ka, mem_slot h⟩
    · exact ⟨.hold, mem_slot h⟩
    · exact ⟨.dop, mem_slot h⟩
  · rintro ⟨x, rfl, hx⟩
    cases x <;> simp [clockGet] at hx <;> simp [cands, Tmr.event, hx]

private theorem cands_pairwise (c : Clock) : (cands c).Pairwise fun p q => p.2 ≠ q.2 := by
  rcases c with ⟨_, _ | a, _ | b, _ | d⟩ <;> simp [cands]

private theorem event_inj {x y : Tmr} (h : x.event = y.event) : x = y := by
  cases x <;> cases y <;> first | rfl | cases h

private theorem foldMin {α : Type} (l : List (Nat × α)) (b : Nat × α) :
    l.foldl (fun b x => if x.1 < b.1 then x else b) b ∈ b :: l ∧
      ∀ x ∈ b :: l, (l.foldl (fun b x => if x.1 < b.1 then x else b) b).1 ≤ x.1 := by
  induction l generalizing b with
  | nil => simp
  | cons a rest ih =>
    rw [List.foldl_cons]
    obtain ⟨h1, h2⟩ := ih (if a.1 < b.1 then a else b)
    have hle := h2 _ (List.mem_cons_self ..)
    refine ⟨?_, fun x hx => ?_⟩
    · rcases List.mem_cons.mp h1 with h | h
      · rw [h]; split <;> simp
      · simp [h]
    · rcases List.mem_cons.mp hx with rfl | hx
      · exact Nat.le_trans hle (by split <;> omega)
      · rcases List.mem_cons.mp hx with rfl | hx
        · exact Nat.le_trans hle (by split <;> omega)
        · exact h2 x (List.mem_cons_of_mem _ hx)

private theorem le_one_unique {α : Type} (l : List α) (h : l.length ≤ 1) (a b : α) (ha : a ∈ l) (hb : b ∈ l) : a = b := by
  match l, h with
  | [], _ => simp at ha
  | [x], _ => simp at ha hb; rw [ha, hb]
  | _ :: _ :: _, h => simp at h

private theorem two_of_pairwise {α : Type} {R : α → α → Prop} {l : List α} (hp : l.Pairwise R) (h : l.length > 1) :
    ∃ a b, a ∈ l ∧ b ∈ l ∧ R a b := by
  match l, h, hp with
  | a :: b :: _, _, hp => exact ⟨a, b, by simp, by simp, (List.pairwise_cons.mp hp).1 b (by simp)⟩

private theorem filter_two (c : Clock) (m : Nat) (h : ((cands c).filter fun x => decide (x.1 ≤ m)).length > 1) :
    ∃ x y tx ty, x ≠ y ∧ clockGet c x = some tx ∧ clockGet c y = some ty ∧ tx ≤ m ∧ ty ≤ m := by
  obtain ⟨p, q, hp, hq, hne⟩ := two_of_pairwise ((cands_pairwise c).sublist List.filter_sublist) h
  obtain ⟨hp, hpm⟩ := List.mem_filter.mp hp
  obtain ⟨hq, hqm⟩ := List.mem_filter.mp hq
  obtain ⟨x, hxe, hx⟩ := (mem_cands c p.1 p.2).mp hp
  obtain ⟨y, hye, hy⟩ := (mem_cands c q.1 q.2).mp hq
  exact ⟨x, y, p.1, q.1, fun hxy => hne (hxe.trans (hxy ▸ hye.symm)), hx, hy,
    of_decide_eq_true hpm, of_decide_eq_true hqm⟩

private theorem two_due {c : Clock} {m : Nat} {x y : Tmr} {tx ty : Nat} (hxy : x ≠ y)
    (hx : clockGet c x = some tx) (hy : clockGet c y = some ty) (h1 : tx ≤ m) (h2 : ty ≤ m) :
    ((cands c).filter fun p => decide (p.1 ≤ m)).length > 1 := by
  refine Nat.lt_of_not_le fun hle => hxy (event_inj ?_)
  have mem : ∀ (z : Tmr) (t : Nat), clockGet c z = some t → t ≤ m →
      (t, z.event) ∈ (cands c).filter fun p => decide (p.1 ≤ m) := fun z t hz ht =>
    List.mem_filter.mpr ⟨(mem_cands c t z.event).mpr ⟨z, rfl, hz⟩, decide_eq_true ht⟩
  injection le_one_unique _ hle _ _ (mem x tx hx h1) (mem y ty hy h2)

/-- the clock after `tick()` took the tick due at `t` of timer `x` (before the arm of its event runs): the paused clock is
at the tick or past it, the timer's next tick one interval after the one taken -/
def tickClock (cfg : Cfg) (c : Clock) (x : Tmr) (t : Nat) : Clock :=
  match x with
  | .ka => { c with now := max c.now t, ka := dueAt t (kaInterval cfg) }
  | .hold => { c with now := max c.now t, hold := dueAt t (holdInterval cfg) }
  | .dop => { c with now := max c.now t, dop := dueAt t dopInterval }

private theorem tickClock_now (cfg : Cfg) (c : Clock) (x : Tmr) (t : Nat) : (tickClock cfg c x t).now = max c.now t := by
  cases x <;> rfl

private theorem clockGet_tickClock (cfg : Cfg) (c : Clock) (x y : Tmr) (t : Nat) :
    clockGet (tickClock cfg c x t) y = if y = x then dueAt t (x.interval cfg) else clockGet c y := by
  cases x <;> cases y <;> rfl

/-- `tickTimer` in terms of the timers: the one with the least entry is taken unless two are due by then -/
private theorem tickTimer_eq (cfg : Cfg) (s : St) (c : Clock) :
    (tickTimer cfg s c = .idle ∧ ∀ x, clockGet c x = none) ∨
    ∃ x t, clockGet c x = some t ∧ (∀ y t', clockGet c y = some t' → t ≤ t') ∧
      tickTimer cfg s c =
        if ((cands c).filter fun p => decide (p.1 ≤ max c.now t)).length > 1 then .tie
        else .fired x.event (step cfg s x.event)
          (clockExec cfg defaultOpen s (tickClock cfg c x t) (actsOfEvent cfg s x.event)) := by
  unfold tickTimer
  extract_lets cs
  rw [show cs = cands c from rfl]
  cases hc : cands c with
  | nil =>
    refine .inl ⟨rfl, fun x => ?_⟩
    cases hx : clockGet c x with
    | none => rfl
    | some t =>
      have := (mem_cands c t x.event).mpr ⟨x, rfl, hx⟩
      rw [hc] at this
      cases this
  | cons p rest =>
    obtain ⟨t0, e0⟩ := p
    simp only
    obtain ⟨hmem, hmin⟩ := foldMin rest (t0, e0)
    generalize rest.foldl (fun (b : Nat × Event) x => if x.1 < b.1 then x else b) (t0, e0) = best at hmem hmin ⊢
    obtain ⟨bt, be⟩ := best
    rw [← hc] at hmem hmin
    obtain ⟨x, rfl, hx⟩ := (mem_cands c bt be).mp hmem
    refine .inr ⟨x, bt, hx, fun y t' hy => hmin _ ((mem_cands c t' y.event).mpr ⟨y, rfl, hy⟩), ?_⟩
    cases x <;> rfl

private theorem tickTimer_taken {cfg : Cfg} {s : St} {c : Clock} {e : Event} {r : StepResult} {c' : Clock}
    (h : tickTimer cfg s c = .fired e r c') :
    ∃ x t, e = x.event ∧ clockGet c x = some t ∧ (∀ y t', clockGet c y = some t' → t ≤ t') ∧
      ¬ ((cands c).filter fun p => decide (p.1 ≤ max c.now t)).length > 1 ∧ r = step cfg s e ∧
      c' = clockExec cfg defaultOpen s (tickClock cfg c x t) (actsOfEvent cfg s e) := by
  rcases tickTimer_eq cfg s c with ⟨h0, -⟩ | ⟨x, t, hx, hmin, heq⟩
  · rw [h0] at h; cases h
  · rw [heq] at h
    split at h
    · cases h
    · next hlen =>
      cases h
      exact ⟨x, t, rfl, hx, hmin, hlen, rfl, rfl⟩

/-- **(ii) the event raised is that of the timer whose tick comes first**, the clock moves to that tick (or
stays, when the tick was queued while the session was not polled), and no other timer has a tick by then
(else: `tie`). -/
theorem tickTimer_fired (cfg : Cfg) (s : St) (c : Clock) (e : Event) (r : StepResult) (c' : Clock)
    (h : tickTimer cfg s c = .fired e r c') :
    ∃ x t, e = x.event ∧ clockGet c x = some t ∧
      (∀ y t', y ≠ x → clockGet c y = some t' → t ≤ t' ∧ max c.now t < t') ∧
      c'.now = max c.now t ∧ r = step cfg s e := by
  obtain ⟨x, t, he, hx, hmin, hlen, hr, rfl⟩ := tickTimer_taken h
  refine ⟨x, t, he, hx, fun y t' hy hyt => ⟨hmin y t' hyt, ?_⟩, by rw [clockExec_now, tickClock_now], hr⟩
  exact Nat.lt_of_not_le fun hge => hlen (two_due hy hyt hx hge (Nat.le_max_right ..))

/-- `tie` only when two timers have a tick by the time the first one is taken: due at the same earliest
instant, or both queued while the session was not polled -/
theorem tickTimer_tie (cfg : Cfg) (s : St) (c : Clock) (h : tickTimer cfg s c = .tie) :
    ∃ x y tx ty, x ≠ y ∧ clockGet c x = some tx ∧ clockGet c y = some ty ∧
      ∃ m, (∀ z t', clockGet c z = some t' → m ≤ t') ∧ tx ≤ max c.now m ∧ ty ≤ max c.now m := by
  rcases tickTimer_eq cfg s c with ⟨h0, -⟩ | ⟨_, t, -, hmin, heq⟩
  · rw [h0] at h; cases h
  · rw [heq] at h
    split at h
    · next hlen =>
      obtain ⟨x, y, tx, ty, hxy, hx, hy, h1, h2⟩ := filter_two c _ hlen
      exact ⟨x, y, tx, ty, hxy, hx, hy, t, hmin, h1, h2⟩
    · cases h

/-- `idle` exactly when none of the three timers has a next tick -/
theorem tickTimer_idle_iff (cfg : Cfg) (s : St) (c : Clock) :
    tickTimer cfg s c = .idle ↔ ∀ x, clockGet c x = none := by
  rcases tickTimer_eq cfg s c with ⟨h0, hn⟩ | ⟨x, t, hx, -, heq⟩
  · exact ⟨fun _ => hn, fun _ => h0⟩
  · constructor
    · intro h
      rw [heq] at h
      split at h <;> cases h
    · intro h
      rw [h x] at hx
      cases hx

/-- `tickTimer` re-arms the timer whose tick it takes with `tickClock`, then runs the arm of its event -/
theorem tickTimer_clock (cfg : Cfg) (s : St) (c : Clock) (e : Event) (r : StepResult) (c' : Clock)
    (h : tickTimer cfg s c = .fired e r c') :
    ∃ x t, e = x.event ∧ clockGet c x = some t ∧
      c' = clockExec cfg defaultOpen s (tickClock cfg c x t) (actsOfEvent cfg s e) := by
  obtain ⟨x, t, he, hx, -, -, -, hc'⟩ := tickTimer_taken h
  exact ⟨x, t, he, hx, hc'⟩

/-- **(i) `tick` raises the expiry event of a timer only if that timer is running** in the session state
(for every clock that is consistent with the state: `clockOk_ofSt`, `clockOk_input`, `clockOk_tick`, `clockOk_wait`). -/
theorem timer_event_only_if_running (cfg : Cfg) (s : St) (c : Clock) (e : Event) (r : StepResult) (c' : Clock)
    (hc : ClockOk s c) (h : tickTimer cfg s c = .fired e r c') :
    ∃ x, e = x.event ∧ running s x = true := by
  obtain ⟨x, t, he, hx, _⟩ := tickTimer_fired cfg s c e r c' h
  exact ⟨x, he, hc x t hx⟩

theorem clockOk_tick (cfg : Cfg) (s s' : St) (c c' : Clock) (e : Event) (ok : Bool) (outs : List Out)
    (hc : ClockOk s c) (h : tickTimer cfg s c = .fired e (.next s' ok outs) c') : ClockOk s' c' := by
  obtain ⟨x, t, rfl, hx, -, -, hr, rfl⟩ := tickTimer_taken h
  obtain ⟨acts, ha, rfl, -⟩ := step_next hr.symm
  rw [actsOfEvent_eq ha, show openOf x.event = defaultOpen by cases x <;> rfl]
  refine clockExec_ok acts fun y ty hy => ?_
  rw [clockGet_tickClock] at hy
  split at hy
  · next hyx => exact hyx ▸ hc x t hx
  · exact hc y ty hy

/-! ### the hold timer needs silence; the keepalive timer sends KEEPALIVEs -/

private theorem hearsKind_acts (c : Ctx) {st : State} {k : Kind} (h : hearsKind st k = true) :
    ∃ acts, arm c st k = .run acts true ∧ (acts = [.resetHold] ∨ acts = [.resetHold, .setState .established]) := by
  cases k with
  | keepaliveMsg =>
    simp only [hearsKind, Bool.or_eq_true, beq_iff_eq] at h
    rcases h with rfl | rfl
    · exact ⟨_, rfl, .inr rfl⟩
    · exact ⟨_, rfl, .inl rfl⟩
  | updateMsg =>
    simp only [hearsKind, beq_iff_eq] at h
    subst h
    exact ⟨_, rfl, .inl rfl⟩
  | _ => cases h

private theorem resets_hears {cfg : Cfg} {s : St} {e : Event} (h : Act.resetHold ∈ actsOfEvent cfg s e) :
    hearsKind s.state (kindOf cfg e) = true := by
  unfold actsOfEvent at h
  split at h
  · next acts ok ha => simpa [resetsOk, h] using (arm_run ha).resets
  · cases h

/-- a step of a timed history: an input is handled, `tick()` lets a timer fire, or time passes un-polled -/
inductive TStep where
  | input (i : Input)
  | tick
  | wait (d : Nat)
  deriving DecidableEq, Repr

/-- session, clock, and the ghost "when the peer was last heard from" -/
structure Timed where
  s : St
  c : Clock
  heard : Nat
  deriving Repr

/-- a timer expiry as the history records it: the clock, the event, the ghost before it -/
structure Expiry where
  at_ : Nat
  event : Event
  heard : Nat
  state : State
  deriving Repr

/-- One step; `none`: the history ends (todo!/panic arm, no timer will tick, a `select!` tie, or an input that
resets the hold timer while two of its ticks are outstanding, `Rc.Fsm.staleInput` - the one place where the
session leaves the C20 precondition in a way `Clock` cannot follow: the second tick survives the reset.  The
driver and c08.rs refuse exactly these lines).  Any amount of time may pass un-polled (`wait`). -/
def timedStep (cfg : Cfg) (x : Timed) : TStep → Option (Timed × List Expiry)
  | .input i =>
    if staleInput cfg x.s x.c i then none else
    match handleInput cfg x.s i with
    | .next s' _ _ =>
      some ({ s := s', c := clockInput cfg x.s x.c i, heard := if hears x.s.state i then x.c.now else x.heard }, [])
    | _ => none
  | .tick =>
    match tickTimer cfg x.s x.c with
    | .fired e (.next s' _ _) c' => some ({ x with s := s', c := c' }, [⟨c'.now, e, x.heard, x.s.state⟩])
    | _ => none
  | .wait d => some ({ x with c := clockWait x.c d }, [])

def timedRun (cfg : Cfg) : Timed → List TStep → List Expiry
  | _, [] => []
  | x, st :: rest =>
    match timedStep cfg x st with
    | some (x', evs) => evs ++ timedRun cfg x' rest
    | none => []

/-- the invariant: the hold timer's next tick is at least a hold time after the peer was last heard from -/
private def HoldInv (cfg : Cfg) (x : Timed) : Prop :=
  ClockOk x.s x.c ∧ x.heard ≤ x.c.now ∧ HoldAfter cfg x.heard x.c

/-- in the states and for the inputs of `hears` the arm restarts the hold timer: afterwards its next tick (if it
runs at all) is a full hold time away -/
private theorem hears_rearms (cfg : Cfg) (s : St) (c : Clock) (i : Input) (hc : ClockOk s c) (hh : hears s.state i = true) :
    ∀ t, (clockInput cfg s c i).hold = some t → c.now + holdInterval cfg ≤ t := by
  intro t ht
  have hi := input_kind cfg s i
  unfold clockInput at ht
  cases he : inputEvent cfg s i with
  | none => simp only [he] at hi; rw [hi.2.2] at hh; cases hh
  | some e =>
    simp only [he] at hi ht
    rw [hi.2.2] at hh
    obtain ⟨acts, ha, hacts⟩ := hearsKind_acts (ctxOf cfg s) hh
    have hr : (clockAct cfg s c .resetHold).hold = some t := by
      rw [actsOfEvent_eq ha] at ht
      rcases hacts with rfl | rfl <;> exact ht
    simp only [clockAct] at hr
    split at hr
    · exact (dueAt_eq hr).2 ▸ Nat.le_refl _
    · next hs => exact absurd (hc .hold t hr) hs

/-! ### where `Clock` stops being exact: a reset with two hold-timer ticks outstanding -/

private theorem staleExec_no_reset (cfg : Cfg) (o : OpenInfo) : ∀ (acts : List Act) (s : St) (c : Clock),
    Act.resetHold ∉ acts → staleExec cfg o s c acts = false := by
  intro acts s c h
  fun_induction staleExec cfg o s c acts with
  | case1 => rfl
  | case2 s c a rest ih =>
    simp only [List.mem_cons, not_or] at h
    rw [ih h.2, Bool.or_false]
    cases a <;> simp at h ⊢

private theorem holdTwoDue_iff (cfg : Cfg) (c : Clock) :
    holdTwoDue cfg c = true ↔ ∃ t, c.hold = some t ∧ t + holdInterval cfg ≤ c.now := by
  unfold holdTwoDue; cases c.hold <;> simp

/-- **What the timed lines refuse** (`Rc.Fsm.staleInput`, used by `timedStep` and by the driver), said without
the arm table: the input is one that restarts the HoldTimer (`hears`: KEEPALIVE in OpenConfirm / Established,
UPDATE in Established), the hold timer runs, and its next tick was due a whole hold time ago or more - two of
its ticks are outstanding (`Rc.Timer.Spec.out2`), the second survives `Timer::reset` as `Spec.stale`.  This is
the condition c08.rs re-computes from its own bookkeeping (`reset_with_two_ticks`). -/
theorem staleInput_iff (cfg : Cfg) (s : St) (c : Clock) (i : Input) :
    staleInput cfg s c i = true ↔
      hears s.state i = true ∧ s.hold = true ∧ ∃ t, c.hold = some t ∧ t + holdInterval cfg ≤ c.now := by
  rw [← holdTwoDue_iff]
  have hi := input_kind cfg s i
  unfold staleInput
  cases he : inputEvent cfg s i with
  | none => simp only [he] at hi ⊢; simp [hi.2.2]
  | some e =>
    simp only [he] at hi ⊢
    rw [hi.2.2]
    cases hk : hearsKind s.state (kindOf cfg e) with
    | true =>
      obtain ⟨acts, ha, hacts⟩ := hearsKind_acts (ctxOf cfg s) hk
      rw [actsOfEvent_eq ha]
      rcases hacts with rfl | rfl <;> simp [staleExec]
    | false =>
      rw [staleExec_no_reset cfg _ _ s c fun hm => by rw [resets_hears hm] at hk; cases hk]
      simp

/-- the events `tick()` raises for its three timers never reset the hold timer: a `T` step cannot be such a place
(the driver checks `staleInput` on inputs only) -/
theorem timer_events_never_reset_hold (cfg : Cfg) (s : St) (c : Clock) (x : Tmr) :
    Act.resetHold ∉ actsOfEvent cfg s x.event ∧
      staleExec cfg defaultOpen s c (actsOfEvent cfg s x.event) = false := by
  have h : Act.resetHold ∉ actsOfEvent cfg s x.event := fun hm => by
    have := resets_hears hm
    cases x <;> cases this
  exact ⟨h, staleExec_no_reset cfg _ _ s c h⟩

/-- non-vacuity of the refusal: local hold 3 s, established, hold timer armed at 0 s (next tick due at 3 s); at
6 s the ticks of 3 s and 6 s are outstanding: an UPDATE then is refused, at 5 s it is not -/
example :
    let cfg : Cfg := ⟨false, true, true, true, [], 3, [65001]⟩
    let s : St := ⟨.established, false, true, true, false, 0, true, none⟩
    staleInput cfg s ⟨6, none, some 3, none⟩ (.msgUpdate 1) = true ∧
      staleInput cfg s ⟨5, none, some 3, none⟩ (.msgUpdate 1) = false := by decide

private theorem holdInv_step {cfg : Cfg} {x x' : Timed} {st : TStep} {evs : List Expiry} (hI : HoldInv cfg x) :
    timedStep cfg x st = some (x', evs) →
    HoldInv cfg x' ∧ ∀ ex ∈ evs, ex.event = .holdTimerExpires → ex.heard + holdInterval cfg ≤ ex.at_ := by
  obtain ⟨hok, hle, hhold⟩ := hI
  fun_cases timedStep cfg x st with
  | case1 | case3 | case5 => intro h; cases h
  | case2 i _ s' ok outs hh =>
    intro h
    cases h
    have hnow : (clockInput cfg x.s x.c i).now = x.c.now := by
      unfold clockInput
      split
      · exact clockExec_now _
      · rfl
    refine ⟨⟨clockOk_input cfg x.s s' x.c i ok outs hok hh, ?_, ?_⟩, fun _ hex => absurd hex List.not_mem_nil⟩
    · simp only [hnow]
      split <;> omega
    · cases hr : hears x.s.state i with
      | true => exact hears_rearms cfg x.s x.c i hok hr
      | false =>
        show HoldAfter cfg x.heard (clockInput cfg x.s x.c i)
        unfold clockInput
        split
        · exact clockExec_hold _ hle hhold
        · exact hhold
  | case4 e s' ok outs c' ht =>
    intro h
    cases h
    obtain ⟨y, t, rfl, hy, -, -, -, hc'⟩ := tickTimer_taken ht
    have hnow : c'.now = max x.c.now t := by rw [hc', clockExec_now, tickClock_now]
    refine ⟨⟨clockOk_tick cfg x.s s' x.c c' _ ok outs hok ht, by show x.heard ≤ c'.now; omega, ?_⟩, ?_⟩
    · show HoldAfter cfg x.heard c'
      rw [hc']
      refine clockExec_hold _ (by rw [tickClock_now]; omega) fun t' ht' => ?_
      -- the hold timer's own re-arming is one interval after the tick taken
      have := clockGet_tickClock cfg x.c y .hold t
      simp only [clockGet] at this
      rw [this] at ht'
      split at ht'
      · next hyx =>
        subst hyx
        have := hhold t hy
        obtain ⟨-, rfl⟩ := dueAt_eq ht'
        omega
      · exact hhold t' ht'
    · intro ex hex hev
      cases List.mem_singleton.mp hex
      cases event_inj (y := .hold) hev
      have := hhold t hy
      show x.heard + holdInterval cfg ≤ c'.now
      omega
  | case6 d =>
    intro h
    cases h
    exact ⟨⟨clockOk_wait x.s x.c d hok, Nat.le_trans hle (Nat.le_add_right ..), hhold⟩,
      fun _ hex => absurd hex List.not_mem_nil⟩

/-- **(iii) The hold timer expires only after silence.** In every timed history of a session - inputs handled at
the current clock, `tick()` letting timers fire, ANY amount of time passing un-polled; the history ends at a reset
of the hold timer with two of its ticks outstanding (`staleInput_iff`) - that starts with a clock consistent with
the session state (e.g. `Clock.ofSt`), whenever `tick()` raises HoldTimer_Expires at clock `T`, at least the
configured hold time has elapsed since the peer was last heard from: the last KEEPALIVE received in OpenConfirm / Established or UPDATE received in
Established (`hears`; 0 = the start of the history when there was none).

Weaker than what c08.rs's hold-timer oracle demands in two respects (both documented as durations outside the
property): (a) the ghost is NOT moved when an OPEN is accepted (the hold timer is started there): for a session
that never receives a KEEPALIVE the theorem bounds the expiry by `history start + hold`, the oracle by
`OPEN accepted + hold`; (b) the theorem speaks of the LOCAL hold time (the interval `Session::new` gives the
timer), the oracle of the NEGOTIATED one (<= local) read from the implementation's record. -/
theorem hold_expiry_needs_silence (cfg : Cfg) : ∀ (steps : List TStep) (x : Timed),
    ClockOk x.s x.c → x.heard ≤ x.c.now → (∀ t, x.c.hold = some t → x.heard + holdInterval cfg ≤ t) →
    ∀ ex ∈ timedRun cfg x steps, ex.event = .holdTimerExpires → ex.heard + holdInterval cfg ≤ ex.at_ := by
  intro steps x h1 h2 h3 ex hex
  fun_induction timedRun cfg x steps with
  | case1 | case3 => cases hex
  | case2 x st rest x' evs hs ih =>
    obtain ⟨⟨h1', h2', h3'⟩, hev⟩ := holdInv_step ⟨h1, h2, h3⟩ hs
    rcases List.mem_append.mp hex with hex | hex
    · exact hev ex hex
    · exact ih h1' h2' h3' hex

/-- the hypotheses hold for a session whose timers were started at time 0 -/
theorem hold_expiry_needs_silence_ofSt (cfg : Cfg) (s : St) (steps : List TStep) :
    ∀ ex ∈ timedRun cfg ⟨s, Clock.ofSt cfg s, 0⟩ steps, ex.event = .holdTimerExpires →
      ex.heard + holdInterval cfg ≤ ex.at_ := by
  apply hold_expiry_needs_silence cfg steps _ (clockOk_ofSt cfg s) (by simp [Clock.ofSt])
  intro t ht
  simp [Clock.ofSt, dueAt] at ht
  obtain ⟨_, _, rfl⟩ := ht
  simp

/-- non-vacuity: hold time 10 s, established at 0 s; the keepalive timer fires at 3 and 6 s, a KEEPALIVE is
heard at 6 s, 1 s passes, an UPDATE is heard at 7 s; the hold timer expires at 17 s -/
example :
    (timedRun ⟨false, true, true, true, [], 10, [65001]⟩ ⟨⟨.established, false, true, true, false, 0, true, none⟩,
        ⟨0, some 3, some 10, none⟩, 0⟩
      [.tick, .tick, .input .msgKeepalive, .wait 1, .input (.msgUpdate 1), .tick, .tick, .tick, .tick]).map
      (fun ex => (ex.at_, ex.event, ex.heard)) =
    [(3, .keepaliveTimerExpires, 0), (6, .keepaliveTimerExpires, 0), (9, .keepaliveTimerExpires, 7),
     (12, .keepaliveTimerExpires, 7), (15, .keepaliveTimerExpires, 7), (17, .holdTimerExpires, 7)] := by decide

/-- **The keepalive timer sends KEEPALIVEs** (RFC 4271 8.2.2, Event 11 in OpenConfirm and Established): when
`tick()` raises KeepaliveTimer_Expires there, a KEEPALIVE is sent, nothing else changes, and the timer's next
tick is one keepalive interval after the one taken. -/
theorem keepalive_timer_sends_keepalive (cfg : Cfg) (s : St) (c : Clock) (r : StepResult) (c' : Clock)
    (hs : s.state = .openConfirm ∨ s.state = .established)
    (h : tickTimer cfg s c = .fired .keepaliveTimerExpires r c') :
    r = .next s true [.pduKeepalive] ∧ ∃ t, c.ka = some t ∧ c'.ka = dueAt t (kaInterval cfg) ∧
      c'.hold = c.hold ∧ c'.dop = c.dop := by
  obtain ⟨x, t, he, hx, -, -, hr, hc'⟩ := tickTimer_taken h
  cases event_inj (x := .ka) he
  have ha : arm (ctxOf cfg s) s.state (kindOf cfg .keepaliveTimerExpires) = .run [.sendKeepalive] true := by
    rcases hs with h | h <;> rw [h] <;> rfl
  refine ⟨?_, t, hx, ?_⟩
  · rw [hr]
    simp only [step, ha]
    rfl
  · rw [hc', actsOfEvent_eq ha]
    exact ⟨rfl, rfl, rfl⟩

/-! ### `Clock` and the C20 timer specification

Each of the three `Clock` entries is the `due` field of a state of the abstract timer specification of C20
(`Rc.Timer.Spec`, Rc/Model/Timer.lean; seconds here, milliseconds there) with nothing stale: `EntrySpec`.  The
theorems below are about the MODEL's functions: the statements of the arms that touch a timer (`clockAct` /
`execAct` of `startKa/startHold/startDop`, `resetHold`, `disconnect`, `stopDop`), time passing (`clockWait`) and
the re-arming `tickTimer` does when it takes a tick (`tickClock`, `tickTimer_clock`) move the entry and the
running flag exactly as `Spec.call .start / .reset / .stop`, `Spec.step (.advance d)` and `Spec.await` move
`due` and `stopped`.  `reset` includes its guard (`s.hold`; `reset()` of a stopped timer does nothing in both)
and says when `Clock` loses track: the specification gets a `stale` tick exactly when
`s.hold && holdTwoDue cfg c` - the condition of `staleInput_iff`, where `timedStep` and the driver stop.
NOT proved: that a whole `timedRun` is simulated by three `Spec` runs (the per-operation facts are not chained
over `clockExec` / `clockInput`; `ClockExact` is shown for `Clock.ofSt` and every single statement, not for
`tickTimer`); `Clock` stays tied to the code by the `T` / `W` correspondence lines. -/

/-- the statement of an arm that is `<timer>.start()` -/
def Tmr.startAct : Tmr → Act
  | .ka => .startKa
  | .hold => .startHold
  | .dop => .startDop

/-- `a` is the C20 specification state the entry of timer `x` stands for: same interval, same clock, `due` = the
entry, nothing stale, `stopped` = the session's running flag negated (`Timer::is_running`) -/
def EntrySpec (cfg : Cfg) (s : St) (c : Clock) (x : Tmr) (a : Rc.Timer.Spec) : Prop :=
  a.i = Tmr.interval cfg x ∧ a.now = c.now ∧ a.due = clockGet c x ∧ a.stale = none ∧ a.stopped = !running s x

/-- `startKa / startHold / startDop` (`clockAct` on the clock, `execAct` on the running flag) = `Spec.call .start` -/
theorem clock_start_is_timer_spec (cfg : Cfg) (o : OpenInfo) (s : St) (c : Clock) (x : Tmr) (a : Rc.Timer.Spec)
    (h : EntrySpec cfg s c x a) :
    EntrySpec cfg (execAct cfg o s (Tmr.startAct x)).1 (clockAct cfg s c (Tmr.startAct x)) x (a.call 0 .start) := by
  obtain ⟨h1, h2, h3, h4, h5⟩ := h
  cases x <;> simp [EntrySpec, Tmr.startAct, clockAct, execAct, clockGet, running, Rc.Timer.Spec.call, dueAt, h1, h2, Tmr.interval]

/-- `disconnect` (keepalive and hold timers) and `stopDop` = `Spec.call .stop` -/
theorem clock_stop_is_timer_spec (cfg : Cfg) (o : OpenInfo) (s : St) (c : Clock) (x : Tmr) (r : Reason) (a : Rc.Timer.Spec)
    (h : EntrySpec cfg s c x a) :
    let act : Act := match x with | .dop => .stopDop | _ => .disconnect r
    EntrySpec cfg (execAct cfg o s act).1 (clockAct cfg s c act) x (a.call 0 .stop) := by
  obtain ⟨h1, h2, h3, h4, h5⟩ := h
  cases x <;> simp [EntrySpec, clockAct, execAct, clockGet, running, Rc.Timer.Spec.call, h1, h2, Tmr.interval]

/-- `resetHold`, guard included = `Spec.call .reset`; the specification keeps a stale tick exactly when the hold timer
runs with two ticks outstanding (then, and only then, `EntrySpec` is lost) -/
theorem clock_reset_is_timer_spec (cfg : Cfg) (o : OpenInfo) (s : St) (c : Clock) (a : Rc.Timer.Spec)
    (h : EntrySpec cfg s c .hold a) (hex : ClockExact cfg s c) :
    let a' := a.call 0 .reset
    let c' := clockAct cfg s c .resetHold
    a'.i = holdInterval cfg ∧ a'.now = c'.now ∧ a'.due = c'.hold ∧ a'.stopped = !(execAct cfg o s .resetHold).1.hold ∧
      a'.stale.isSome = (s.hold && holdTwoDue cfg c) := by
  obtain ⟨h1, h2, h3, h4, h5⟩ := h
  have hh := hex .hold
  simp only [clockGet, running, Tmr.interval] at h1 h3 h5 hh
  cases hd : c.hold with
  | none =>
    rw [hd] at h3 hh
    cases hs : s.hold <;> simp [hs] at hh <;>
      simp [Rc.Timer.Spec.call, clockAct, execAct, h1, h2, h3, h4, h5, hd, hs, holdTwoDue, dueAt]
    have := of_decide_eq_false hh; omega
  | some t =>
    rw [hd] at h3 hh
    simp at hh
    have hi : ¬ holdInterval cfg = 0 := of_decide_eq_true hh.2
    simp [Rc.Timer.Spec.call, Rc.Timer.Spec.out2, clockAct, execAct, h1, h2, h3, h4, h5, hd, hh.1, holdTwoDue, dueAt, hi]
    by_cases h6 : t + holdInterval cfg ≤ c.now
    · have : t ≤ c.now := by omega
      simp [h6, this]
    · simp [h6]; split <;> rfl

/-- taking a tick = `Spec.await` (any patience `d` that reaches the tick): same re-arming, and the observation is the
tick due at `t`, handed out at `max now t` -/
theorem clock_tick_is_timer_spec (cfg : Cfg) (s : St) (c : Clock) (x : Tmr) (t d : Nat) (a : Rc.Timer.Spec)
    (h : EntrySpec cfg s c x a) (hex : ClockExact cfg s c) (ht : clockGet c x = some t) (hlt : t < c.now + d) :
    EntrySpec cfg s (tickClock cfg c x t) x (a.await d).1 ∧ (a.await d).2 = .tick t (max c.now t) := by
  obtain ⟨h1, h2, h3, h4, h5⟩ := h
  have hh := hex x
  rw [ht] at hh h3
  have hi : Tmr.interval cfg x ≠ 0 := by simp at hh; exact hh.2
  have hdue : dueAt t (Tmr.interval cfg x) = some (t + Tmr.interval cfg x) := by simp [dueAt, hi]
  unfold EntrySpec
  rw [tickClock_now, clockGet_tickClock, if_pos rfl, hdue]
  simp only [Rc.Timer.Spec.await, h4, h3, h2, h1]
  by_cases hle : t ≤ c.now
  · simp [hle, h5, Nat.max_eq_left hle]
  · have hm : max c.now t = t := by omega
    simp [hle, hlt, h5, hm]

/-- non-vacuity: an established session with local hold 10 s whose timers were started at 0 s; its hold entry is the
specification state of a 10 s timer started at 0 -/
example :
    let cfg : Cfg := ⟨false, true, true, true, [], 10, [65001]⟩
    let s : St := ⟨.established, false, true, true, false, 0, true, none⟩
    EntrySpec cfg s (Clock.ofSt cfg s) .hold ((Rc.Timer.Spec.init 10).call 0 .start) ∧
      (Clock.ofSt cfg s).hold = some 10 := by
  simp [EntrySpec, Clock.ofSt, Rc.Timer.Spec.init, Rc.Timer.Spec.call, Tmr.interval, holdInterval, clockGet, running, dueAt]

/-- time passing un-polled is the specification's `advance` -/
theorem clock_wait_is_timer_spec (cfg : Cfg) (s : St) (c : Clock) (x : Tmr) (d : Nat) (a : Rc.Timer.Spec)
    (h : EntrySpec cfg s c x a) : EntrySpec cfg s (clockWait c d) x (a.step (.advance d)).1 := by
  obtain ⟨h1, h2, h3, h4, h5⟩ := h
  cases x <;> simp [EntrySpec, clockWait, Rc.Timer.Spec.step, clockGet, h1, h2, h3, h4, h5]

end Rc.Thm.C08
