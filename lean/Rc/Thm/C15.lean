/-
C15 – BMP messages decode faithfully and malformed ones cannot panic the monitor.

The property theorems (helper lemmas: Rc/Lemmas/Bmp.lean, BmpBytes.lean, BmpAccept.lean, OpenParse.lean,
OpenBridge.lean, BmpEmbedded.lean).
The model (Rc/Model/Bmp.lean) mirrors src/bmp/message.rs after the repairs
listed in known_findings.jsonl (`fixed` entries); `Outcome.panic` stands for
every slice/index/unwrap/overflow that could fire.
-/
import Rc.Lemmas.BmpBytes
import Rc.Lemmas.BmpAccept
import Rc.Lemmas.OpenParse
import Rc.Lemmas.BmpEmbedded
import Rc.Thm.C02
import Rc.Gen.Constants

namespace Rc.Thm.C15
open Rc Rc.Bmp

/-- **model_constants_agree**: the payload offset of the model is `const COFF` (= 6 + 42, common
header + per-peer header) of src/bmp/message.rs as the source has it now (`Rc/Gen/Constants.lean`,
regenerated by the pre step `tools/gen_codepoints.py --constants`) -/
theorem model_constants_agree : COFF = Rc.Gen.bmpCoff := by decide

/-- the embedded-message decoders as modelled in Rc/Model/OpenParse.lean -/
def deps : Deps := { openParse := Rc.OpenParse.openParse, notifParse := Rc.OpenParse.notifParse }

/-- `OpenMessage::parse` / `NotificationMessage::parse` never panic and never
claim more bytes than they were given – for every byte string. -/
theorem embedded_decoders_total : deps.Total :=
  ⟨Rc.OpenParse.openParse_np, Rc.OpenParse.notifParse_np, Rc.OpenParse.openParse_le⟩

/-! ## totality: "for every byte string decoding returns a message or an error without panicking" -/

theorem decode_total (bs : Bytes) : fromOctets deps bs ≠ .panic :=
  fromOctets_np deps embedded_decoders_total bs

/-- what `Message::check` answers is the framing rule of RFC 7854 section 4.1: with five octets or
more and a length field `len` above 6, `Ok(len)` exactly when `len` octets are in the buffer -/
theorem message_check_spec (bs : Bytes) (h5 : 5 ≤ bs.length) :
    msgCheck bs = .ok (if beAt bs 1 4 ≤ 6 then .illegalSize
      else if beAt bs 1 4 ≤ bs.length then .complete (beAt bs 1 4) else .incomplete) := by
  rw [msgCheck, if_pos h5, rdBE_ok (by omega), rdBE_ok (by omega)]
  dsimp only
  split
  · rfl
  · -- the subtraction does not underflow (`len > 6`), and `len - 5` octets remain iff `len` are held
    rw [usub, if_pos (by omega)]
    dsimp only
    by_cases hl : beAt bs 1 4 ≤ bs.length
    · rw [if_pos hl, if_pos (by omega)]
    · rw [if_neg hl, if_neg (by omega)]

/-- `Message::check` (the framing test a monitor runs on its receive buffer, message.rs:171) never
panics, for every buffer content: its two `Buf` reads happen behind `remaining() >= 5`, and its one
`usize` subtraction `(len as usize) - 5` behind `len <= 6 → IllegalSize`. Both are explicit
operations of the model (`rdBE`, `usub`). -/
theorem message_check_total (bs : Bytes) : msgCheck bs ≠ .panic := by
  by_cases h5 : 5 ≤ bs.length
  · rw [message_check_spec bs h5]
    nofun
  · rw [msgCheck, if_neg h5]
    nofun

example : msgCheck [3, 0, 0, 0, 7, 4, 0] = .ok (.complete 7) ∧ msgCheck [3, 0, 0, 0, 7, 4] = .ok .incomplete ∧
    msgCheck [3, 0, 0, 0, 6, 4] = .ok .illegalSize := by decide

private theorem kind_check {bs : Bytes} {k : MsgKind} (h : fromOctets deps bs = .ok k) :
    6 ≤ bs.length ∧ checkKind deps k bs = .ok () :=
  ⟨(fromOctets_ok.1 h).1, (fromOctets_ok.1 h).2.2⟩

/-- an accepted message has the 6 header octets; with a per-peer header, 48 -/
theorem accepted_length {bs : Bytes} {k : MsgKind} (h : fromOctets deps bs = .ok k) :
    6 ≤ bs.length ∧ (k ≠ .initiation → k ≠ .termination → 48 ≤ bs.length) :=
  ⟨(kind_check h).1, checkKind_pph_len (kind_check h).2⟩

/-! ## "on an accepted message no accessor or iterator panics or fails to terminate" -/

/-- common header accessors (version, length, type) and `Debug` -/
theorem common_header_total {bs : Bytes} {k : MsgKind} (h : fromOctets deps bs = .ok k) :
    chVersion bs ≠ .panic ∧ chLength bs ≠ .panic ∧ chMsgType bs ≠ .panic ∧ debugLen bs ≠ .panic :=
  common_accessors_np (accepted_length h).1

/-- every per-peer-header accessor, on every message kind that has one -/
theorem per_peer_header_total {bs : Bytes} {k : MsgKind} (h : fromOctets deps bs = .ok k)
    (h1 : k ≠ .initiation) (h2 : k ≠ .termination) : ∃ p, pph bs = .ok p :=
  pph_ok ((accepted_length h).2 h1 h2)

/-- RouteMonitoring: the embedded UPDATE is handed to the UPDATE decoder (C01/C02) without panicking -/
theorem route_monitoring_total {bs : Bytes} (h : fromOctets deps bs = .ok .routeMonitoring) :
    rmUpdateBytes bs = .ok (bs.drop 48) := by
  have := (accepted_length h).2 (by simp) (by simp)
  simp [rmUpdateBytes, COFF, this]

/-- StatisticsReport: `stats_count` and the `stats()` iterator never panic, and
the iterator yields exactly `stats_count` items (so it terminates). -/
theorem statistics_total {bs : Bytes} (h : fromOctets deps bs = .ok .statisticsReport) :
    ∃ n l, statsCount bs = .ok n ∧ stats bs = .ok l ∧ l.length = n :=
  stats_of_check (kind_check h).2

/-- InitiationMessage: the Information TLV iterator never panics and terminates -/
theorem initiation_tlvs_total {bs : Bytes} (h : fromOctets deps bs = .ok .initiation) :
    ∃ l, initiationTlvs bs = .ok l := by
  obtain ⟨hc, ht⟩ := initiationCheck_ok.1 (kind_check h).2
  have h6 := (commonCheck_ok.1 hc).2.1
  rw [initiationTlvs, sliceFrom_ok h6]
  exact infoTlvIter_of_tlvLoop _ _ h6 ht

/-- TerminationMessage: the Information iterator never panics and terminates -/
theorem termination_info_total {bs : Bytes} (h : fromOctets deps bs = .ok .termination) :
    ∃ l, terminationInfo bs = .ok l := by
  obtain ⟨hc, ht⟩ := initiationCheck_ok.1 (kind_check h).2
  have h6 := (commonCheck_ok.1 hc).2.1
  rw [terminationInfo, sliceFrom_ok h6]
  exact termIter_of_tlvLoop _ _ h6 ht

/-- PeerDownNotification: `reason`, `fsm` and `notification` never panic -/
theorem peer_down_total {bs : Bytes} (h : fromOctets deps bs = .ok .peerDown) :
    (∃ r, peerDownReason bs = .ok r) ∧ (∃ f, peerDownFsm bs = .ok f) ∧ (∃ n, peerDownNotification deps bs = .ok n) := by
  obtain ⟨-, h49, hc⟩ := peerDownCheck_ok.1 (kind_check h).2
  -- `r`: the reason octet; the accessors look at `c`, `r` clamped to 0..6, which changes none of 1, 2, 3
  generalize hr : beAt bs 48 1 = r at hc
  obtain ⟨c, hreason, e2, e13⟩ : ∃ c, peerDownReason bs = .ok c ∧ (c = 2 ↔ r = 2) ∧ (c = 1 ∨ c = 3 ↔ r = 1 ∨ r = 3) :=
    ⟨_, by rw [peerDownReason, COFF, idx_ok h49, hr], by split <;> omega, by split <;> omega⟩
  refine ⟨⟨_, hreason⟩, ?_, ?_⟩
  · rw [peerDownFsm, hreason]
    dsimp only
    by_cases h2 : r = 2
    · rw [if_neg (by omega)] at hc
      rw [if_pos (e2.2 h2), COFF, rdBE_ok (by have := hc h2; omega)]
      exact ⟨_, rfl⟩
    · rw [if_neg (mt e2.1 h2)]
      exact ⟨_, rfl⟩
  · rw [peerDownNotification, hreason]
    dsimp only
    by_cases h13 : r = 1 ∨ r = 3
    · rw [if_pos h13] at hc
      rw [if_pos (e13.2 h13), COFF]
      by_cases hend : 48 + 1 = bs.length
      · rw [if_pos hend]
        exact ⟨_, rfl⟩
      · obtain ⟨k, hk⟩ := hc.resolve_left (by omega)
        rw [if_neg hend, sliceFrom_ok (by omega)]
        dsimp only
        rw [hk]
        exact ⟨_, rfl⟩
    · rw [if_neg (mt e13.1 h13)]
      exact ⟨_, rfl⟩

/-- PeerUpNotification: local address and ports, both embedded OPENs and the
Information TLV iterator never panic -/
theorem peer_up_total {bs : Bytes} (h : fromOctets deps bs = .ok .peerUp) :
    ∃ u, peerUp deps bs = .ok u := by
  obtain ⟨h68, n1, n2, -, -, hle, ht, hsent, hrcvd, htl⟩ :=
    peerUp_of_check embedded_decoders_total (kind_check h).2
  obtain ⟨l, hl⟩ := infoTlvIter_of_tlvLoop _ _ hle ht
  rw [peerUp, COFF, slice_ok (by omega) (by omega), rdBE_ok (by omega), rdBE_ok (by omega)]
  dsimp only
  rw [hsent, hrcvd, htl, hl, slice_ok (a := 48 + 12) (by omega) (by omega),
    slice_ok (a := 48) (b := 48 + 16) (by omega) (by omega)]
  generalize List.all _ _ = v4
  cases v4 <;> exact ⟨_, rfl⟩

/-! ## the embedded BGP messages, through the models that own them (C03, C01/C02) -/

/-- **One model of the capability rules.**  The content rules of `Capability::parse` as written
for the BMP parse path (`Rc.OpenParse.capContent`: cursor + absolute positions) and as written
for `from_octets` / `check` / the accessors (`Rc.Open.capContent`, C03: remaining bytes) accept
exactly the same capabilities: for every capability code, length octet, buffer and position. -/
theorem capability_rules_agree (typ len start : Nat) (d : Bytes) (hp : start + 2 ≤ d.length) :
    (∃ c', Rc.OpenParse.capContent typ len start ⟨d, start + 2⟩ = .ok c') ↔
      Rc.Open.capContent typ len (d.drop (start + 2)) = .ok () :=
  Rc.OpenBridge.capContent_agree typ len start d hp

/-- … and so do the two models of `Capability::parse` as a whole: each accepts what the other
accepts, as the same capability, leaving the parser at the same place. -/
theorem capability_parse_agree (d : Bytes) (p : Nat) (hp : p ≤ d.length) :
    (∀ c', Rc.OpenParse.capParse ⟨d, p⟩ = .ok c' →
      ∃ cap, Rc.Open.parseCap (d.drop p) = .ok (cap, d.drop (p + 2 + cap.value.length)) ∧
        c' = ⟨d, p + 2 + cap.value.length⟩ ∧ p + 2 + cap.value.length ≤ d.length) ∧
    (∀ cap r, Rc.Open.parseCap (d.drop p) = .ok (cap, r) →
      Rc.OpenParse.capParse ⟨d, p⟩ = .ok ⟨d, p + 2 + cap.value.length⟩ ∧
        r = d.drop (p + 2 + cap.value.length)) :=
  Rc.OpenBridge.capParse_agree d p hp

/-- **An OPEN accepted by `OpenMessage::parse` is one `OpenMessage::from_octets` accepts**: the
`n` octets `parse` returns (from a buffer that may go on: the rest of the PeerUp) pass
`OpenMessage::check` on their own.  Everything C03 proves of a checked OPEN therefore holds of
the OPENs a PeerUp hands out. -/
theorem embedded_open_is_checked (bs : Bytes) (n : Nat) (h : deps.openParse bs = .ok n) :
    n ≤ bs.length ∧ Rc.Open.fromOctets (bs.take n) = .ok (bs.take n) :=
  ⟨(Rc.OpenBridge.openParse_check bs n h).1, parsed_open_from_octets h⟩

/-- **The two decoders of an OPEN accept the same messages**: `OpenMessage::parse` at the start of
`bs` accepts and returns `n` octets exactly when the first `n` octets of `bs` pass
`OpenMessage::check` (so `from_octets` accepts them).  The parse path (optional parameters read on
the whole buffer with the `opt_param_len` accounting, `Header::parse`, final length comparison)
and the check path (parser limited to the optional-parameters field, `Header::check`,
"trailing bytes") are two descriptions of one set of messages. -/
theorem embedded_open_iff_checked (bs : Bytes) (n : Nat) :
    deps.openParse bs = .ok n ↔ n ≤ bs.length ∧ Rc.Open.openCheck (bs.take n) = .ok () :=
  Rc.OpenBridge.openParse_iff_check bs n

/-- non-vacuity: a 55-octet OPEN (capabilities MP 1/1, 4-octet AS, ADD-PATH, FQDN) followed by other
octets is accepted by the parse-path model, which consumes exactly the OPEN -/
example :
    deps.openParse (Rc.Open.marker ++ [0, 55, 1, 4, 0xfd, 0xea, 0, 90, 10, 0, 0, 2, 26, 2, 24,
      1, 4, 0, 1, 0, 1, 65, 4, 0, 0, 0xfd, 0xea, 69, 4, 0, 1, 1, 3, 73, 4, 1, 0x41, 1, 0x42] ++ [9, 9, 9]) = .ok 55 := by
  decide

/-- **The PeerUp configuration accessors are total.**  On every accepted PeerUp,
`bgp_open_sent_rcvd()` and what `session_config`, `pph_session_config`, `supported_protocols`
read off the two OPENs – `my_asn`, `four_octet_capable`, `addpath_families_vec` (through
`addpath_intersection`), the MultiProtocol capability values, `capabilities()`, `parameters()`,
`get_software_version`, `holdtime`, `identifier`, `version` – return values: none panics (C03
`open_accessors_total`, carried over by `embedded_open_is_checked`); an `Err` of
`addpath_families_vec` is a value (`addpath = none`: the intersection is then empty). -/
theorem peer_up_config_total {bs : Bytes} (h : fromOctets deps bs = .ok .peerUp) :
    ∃ c, peerUpConfig deps bs = .ok c := by
  obtain ⟨-, n1, n2, h1, h2, -, -, hsent, hrcvd, -⟩ := peerUp_of_check embedded_decoders_total (kind_check h).2
  obtain ⟨c1, e1⟩ := Rc.OpenNoErr.openCfg_ok _ (parsed_open_from_octets h1)
  obtain ⟨c2, e2⟩ := Rc.OpenNoErr.openCfg_ok _ (parsed_open_from_octets h2)
  exact ⟨(c1, c2), by rw [peerUpConfig, hsent, hrcvd]; dsimp only; rw [e1, e2]⟩

private theorem upd_header_body {bs body : Bytes} {hl : Nat} {ty : UInt8}
    (h : Rc.Upd.headerParse bs = .ok (hl, ty, body)) : body = bs.drop 19 := by
  unfold Rc.Upd.headerParse at h
  cases h16 : takeN 16 bs with
  | none => simp [h16] at h
  | some q =>
    obtain ⟨m, r0⟩ := q
    obtain ⟨hm, hb⟩ := takeN_length h16
    simp only [h16] at h
    split at h
    · simp at h
    · match r0, h with
      | a :: b :: t :: r, h =>
        simp [rd16] at h
        rw [hb, ← h.2.2]
        simp [List.drop_append, hm]
      | [a, b], h => simp [rd16] at h
      | [a], h => simp [rd16] at h
      | [], h => simp [rd16] at h

/-- `UpdateMessage::parse` against `UpdateMessage::from_octets` on the same octets `u`, wherever they stand -/
private theorem parse_as_from_octets (cfg : Rc.Upd.Cfg) (u : Bytes) :
    Rc.Upd.parseUpdate cfg u ≠ .panic ∧
    (∀ m, Rc.Upd.parseUpdate cfg u = .ok m ↔ updFromOctets cfg u = .ok ⟨u, m⟩) ∧
    (Rc.Upd.parseUpdate cfg u = .err ↔ updFromOctets cfg u = .err) ∧
    (∀ m, Rc.Upd.parseUpdate cfg u = .ok m →
      ∃ hl ty body, Rc.Upd.headerParse u = .ok (hl, ty, body) ∧ 19 ≤ hl ∧
        m.body = (u.drop 19).take (hl - 19)) := by
  refine ⟨Rc.Thm.C02.parse_total cfg u, ?_, ?_, ?_⟩
  · intro m
    unfold updFromOctets
    cases Rc.Upd.parseUpdate cfg u <;> simp
  · unfold updFromOctets
    cases Rc.Upd.parseUpdate cfg u <;> simp
  · intro m hm
    obtain ⟨hl, ty, body, _, _, _, _, _, _, _, _, _, hh, h19, _, _, _, _, _, _, _, _, _, _, _, hbody, _⟩ :=
      Rc.Upd.parseUpdate_ok hm
    exact ⟨hl, ty, body, hh, h19, by rw [hbody, upd_header_body hh]⟩

/-- **The embedded UPDATE decodes exactly as it would on its own.**  (What carries content here:
conjunct 2 - no panic, from C02 `parse_total` - and conjunct 5 - which octets the value keeps.
Conjuncts 1, 3 and 4 hold BY CONSTRUCTION of the model: `rmUpdate` and `updFromOctets` are both
defined through `Rc.Upd.parseUpdate` on the octets after the per-peer header, which encodes the
ASSUMPTION that `UpdateMessage::parse` is position-relative (tools/props/C15.json, assumptions); the
clause itself is decided on the real code by the harness: `bgp_update()` against
`UpdateMessage::from_octets` on the same octets, token `same=1`, judged by the oracle.)  For an accepted
RouteMonitoring message and every session configuration, `bgp_update(config)`
(`UpdateMessage::parse` on a parser over the whole BMP message advanced by 48) is
`UpdateMessage::parse` of the octets after the per-peer header – it never panics (the
`expect` cannot fire, and C02 `parse_total`) –, and succeeds / fails exactly when
`UpdateMessage::from_octets` on those octets does, with the same sections and parse info
(`f.msg = m`); the one difference is which octets the value keeps: `from_octets` all of them
(`f.octets`), `parse` the `length − 19` octets after the 19-octet header
(`m.body = (f.octets.drop 19).take (hl − 19)`, `hl` the UPDATE's length field), the section
ranges being shifted by those 19. -/
theorem route_monitoring_update_same {bs : Bytes} (h : fromOctets deps bs = .ok .routeMonitoring)
    (cfg : Rc.Upd.Cfg) :
    rmUpdate cfg bs = Rc.Upd.parseUpdate cfg (bs.drop 48) ∧
    rmUpdate cfg bs ≠ .panic ∧
    (∀ m, rmUpdate cfg bs = .ok m ↔ updFromOctets cfg (bs.drop 48) = .ok ⟨bs.drop 48, m⟩) ∧
    (rmUpdate cfg bs = .err ↔ updFromOctets cfg (bs.drop 48) = .err) ∧
    (∀ m, rmUpdate cfg bs = .ok m →
      ∃ hl ty body, Rc.Upd.headerParse (bs.drop 48) = .ok (hl, ty, body) ∧ 19 ≤ hl ∧
        m.body = ((bs.drop 48).drop 19).take (hl - 19)) := by
  have e : rmUpdate cfg bs = Rc.Upd.parseUpdate cfg (bs.drop 48) := by
    simp [rmUpdate, route_monitoring_total h]
  rw [e]
  exact ⟨rfl, parse_as_from_octets cfg _⟩

/-! ## faithfulness: "decoding succeeds and reports the encoded fields"

Reference encoders: `encPph`, `encStat`, `encTlv` (Rc/Model/Bmp.lean), `encTerm`
(Rc/Lemmas/BmpBytes.lean). The well-formedness predicates say only that each
field fits its wire width. -/

/-- common header: version, message length and message type are reported as encoded -/
theorem common_header_roundtrip (len typ : Nat) (rest : Bytes) (hl : len < 4294967296) (ht : typ < 256) :
    chVersion (encCommon len typ ++ rest) = .ok 3 ∧ chLength (encCommon len typ ++ rest) = .ok len ∧
    chMsgType (encCommon len typ ++ rest) = .ok typ := by
  obtain ⟨fv, fl, ft⟩ := encCommon_fields len typ rest
  refine ⟨fv.idx, ?_, ?_⟩
  · rw [chLength, fl.rdBE (n := 4) rfl, beNat_be32 _ hl]
  · rw [chMsgType, ft.idx, UInt8.toNat_ofNat', Nat.mod_eq_of_lt ht]

/-- per-peer header: every field (type, flags, distinguisher, IPv4/IPv6
address chosen by the V flag, AS, BGP id, timestamp seconds and microseconds)
is reported as encoded, whatever precedes (the 6-byte common header) and
follows it -/
theorem per_peer_header_roundtrip (hdr rest : Bytes) (p : Pph) (hh : hdr.length = 6) (hp : WfPph p) :
    pph (hdr ++ encPph p ++ rest) = .ok p := by
  have hl := encPph_length p hp
  obtain ⟨pt, fl, dist, v6, addr, asn, bid, s, us⟩ := p
  obtain ⟨h1, h2, h3, h4, h5, h6, h7, h8, h9⟩ := hp
  dsimp only at h1 h2 h3 h4 h5 h6 h7 h8 h9
  rw [pph, ((Field.refl _).left.right hh).slice (b := 48) (by rw [hl])]
  dsimp only
  have F := Field.refl (encPph ⟨pt, fl, dist, v6, addr, asn, bid, s, us⟩)
  unfold encPph at F ⊢
  dsimp only at F ⊢
  -- `A`: the 16-octet address field, the address itself (IPv6) or 12 zero octets and the address
  generalize hA : (if v6 = true then addr else List.replicate 12 0 ++ addr) = A at F ⊢
  have hAl : A.length = 16 := hA ▸ addrField_length v6 addr h5
  have f38 := F.right (n := 38) (by simp [h3, hAl, h7])
  have f34 := F.left.right (n := 34) (by simp [h3, hAl, h7])
  have f30 := F.left.left.right (n := 30) (by simp [h3, hAl])
  have f26 := F.left.left.left.right (n := 26) (by simp [h3, hAl])
  have f10 := F.left.left.left.left.right (n := 10) (by simp [h3])
  have f2 := F.left.left.left.left.left.right (n := 2) rfl
  have f0 := F.left.left.left.left.left.left
  rw [f0.first.idx, f0.rest.first.idx, f2.slice (by rw [h3]), f26.rdBE (n := 4) rfl, f30.slice (by rw [h7]),
    f34.rdBE (n := 4) rfl, f38.rdBE (n := 4) rfl]
  dsimp only
  rw [UInt8.toNat_ofNat', UInt8.toNat_ofNat', Nat.mod_eq_of_lt h1, Nat.mod_eq_of_lt h2, ← h4,
    beNat_be32 _ h6, beNat_be32 _ h8, beNat_be32 _ h9]
  cases v6 with
  | true => rw [if_pos rfl, f10.slice (by rw [hAl]), ← hA, if_pos rfl]
  | false =>
    have f22 : Field A 12 addr := hA ▸ (Field.refl _).right (n := 12) (by simp)
    rw [if_neg Bool.false_ne_true, (f10.sub f22).slice (by simp at h5; rw [h5])]

example : WfPph ⟨1, 0x80, [1,2,3,4,5,6,7,8], true, List.replicate 16 7, 65551, [10,0,0,1], 1700000000, 999999⟩ := by
  simp [WfPph]

/-- statistics report: `stats_count` is the encoded count and `stats()`
yields exactly the encoded statistics, in order – for every list length and
every mix of the 18 defined types and unknown ones -/
theorem statistics_roundtrip (hdr rest : Bytes) (ss : List Stat) (hh : hdr.length = 48)
    (hn : ss.length < 4294967296) (h : ∀ s ∈ ss, WfStat s) :
    statsCount (hdr ++ be32 ss.length ++ ss.flatMap encStat ++ rest) = .ok ss.length ∧
    stats (hdr ++ be32 ss.length ++ ss.flatMap encStat ++ rest) = .ok ss := by
  have F := Field.refl (hdr ++ be32 ss.length ++ ss.flatMap encStat ++ rest)
  have hc : statsCount (hdr ++ be32 ss.length ++ ss.flatMap encStat ++ rest) = .ok ss.length := by
    rw [statsCount, COFF, (F.left.left.right hh).rdBE (n := 4) rfl, beNat_be32 _ hn]
  have fs := F.left.right (n := 52) (by simp [hh])
  refine ⟨hc, ?_⟩
  rw [stats, hc, COFF, sliceFrom_ok (by have := fs.le; omega)]
  exact statIter_field ss fs h

example : ∀ s ∈ [Stat.u32 0 5, Stat.u64 7 (2^40), Stat.afiSafi 9 1 1 77, Stat.unimplemented 99 3, Stat.unimplemented 0 5], WfStat s := by
  simp [WfStat, isU32Stat, isU64Stat, isAfiSafiStat]

/-- initiation message: the Information TLV iterator yields exactly the encoded TLVs -/
theorem initiation_roundtrip (hdr : Bytes) (ts : List (Nat × Nat × Bytes)) (hh : hdr.length = 6)
    (h : ∀ t ∈ ts, WfTlv t) :
    initiationTlvs (hdr ++ ts.flatMap encTlv) = .ok ts := by
  have hlen := List.length_append (as := hdr) (bs := ts.flatMap encTlv)
  rw [initiationTlvs, sliceFrom_ok (by omega)]
  exact infoTlvIter_field ts (.last hh) (by omega) (by omega) h

/-- termination message: the Information iterator yields exactly the encoded
strings and reason codes -/
theorem termination_roundtrip (hdr : Bytes) (ts : List TermInfo) (hh : hdr.length = 6)
    (h : ∀ t ∈ ts, WfTerm t) :
    terminationInfo (hdr ++ ts.flatMap encTerm) = .ok ts := by
  have hlen := List.length_append (as := hdr) (bs := ts.flatMap encTerm)
  rw [terminationInfo, sliceFrom_ok (by omega)]
  exact termIter_field ts (.last hh) (by omega) (by omega) h

example : ∀ t ∈ [TermInfo.customString [104, 105], TermInfo.reason 3], WfTerm t := by simp [WfTerm]

/-- peer down: reason, FSM code and the embedded NOTIFICATION (byte for byte)
are what follows the 48 header bytes; the NOTIFICATION is the message
its own header delimits (`notifParse payload = ok k`) -/
theorem peer_down_roundtrip (hdr payload : Bytes) (reason : Nat) (hh : hdr.length = 48) (hr : reason < 256) :
    peerDownReason (hdr ++ [UInt8.ofNat reason] ++ payload) = .ok (if reason ≤ 5 then reason else 6) ∧
    (reason = 2 → 2 ≤ payload.length →
      peerDownFsm (hdr ++ [UInt8.ofNat reason] ++ payload) = .ok (some (beAt payload 0 2))) ∧
    ((reason = 1 ∨ reason = 3) → payload ≠ [] → ∀ k, deps.notifParse payload = .ok k →
      peerDownNotification deps (hdr ++ [UInt8.ofNat reason] ++ payload) = .ok (some (payload.take k))) := by
  generalize hbs : hdr ++ [UInt8.ofNat reason] ++ payload = bs
  have F : Field bs 0 (hdr ++ [UInt8.ofNat reason] ++ payload) := hbs ▸ .refl _
  have hlen : 49 + payload.length = bs.length := by subst hbs; simp [hh]; omega
  have hdrop : bs.drop 49 = payload := (F.right (n := 49) (by simp [hh])).drop hlen
  have hreason : peerDownReason bs = .ok (if reason ≤ 5 then reason else 6) := by
    rw [peerDownReason, COFF, (F.left.right hh).idx, UInt8.toNat_ofNat', Nat.mod_eq_of_lt hr]
  refine ⟨hreason, ?_, ?_⟩
  · rintro rfl hl
    rw [peerDownFsm, hreason]
    dsimp only
    rw [if_pos (by decide), COFF, rdBE_ok (by omega), beAt, hdrop]
    rfl
  · intro h13 hne k hk
    have hne : payload.length ≠ 0 := mt List.eq_nil_of_length_eq_zero hne
    rw [peerDownNotification, hreason]
    dsimp only
    rw [if_pos (by rcases h13 with rfl | rfl <;> decide), COFF, if_neg (by omega), sliceFrom_ok (by omega), hdrop]
    dsimp only
    rw [hk]

/-! ## acceptance: "for every well-formed BMP message of each type decoding SUCCEEDS"

A well-formed message is `encMsg typ body` = `encCommon (6 + body.length) typ ++ body` with the body of
its type built by the reference encoders.  The theorems below hold for every value `len` of the
header's length field (`Message::from_octets` does not compare it with the octets it is given), so in
particular for the message's own length.  The per-peer header's peer type is one of the four defined ones
(0..3: `PerPeerHeader::check` refuses others). -/

private theorem fromOctets_enc (len typ : Nat) (k : MsgKind) (rest : Bytes) (hk : kindOf typ = some k)
    (hc : checkKind deps k (encCommon len typ ++ rest) = .ok ()) :
    fromOctets deps (encCommon len typ ++ rest) = .ok k := by
  have ht : typ ≤ 6 := by
    unfold kindOf at hk
    split at hk <;> first | omega | simp at hk
  refine fromOctets_ok.2 ⟨by rw [List.length_append, encCommon_length]; omega, ?_, hc⟩
  rw [(encCommon_fields len typ rest).2.2.beAt (n := 1) rfl, beNat_byte, Nat.mod_eq_of_lt (by omega)]
  exact hk

private theorem body_field (len typ : Nat) (p : Pph) (hp : WfPph p) (body : Bytes) :
    Field (encCommon len typ ++ (encPph p ++ body)) 48 body ∧
      (encCommon len typ ++ (encPph p ++ body)).length = 48 + body.length :=
  ⟨((Field.refl _).right (encCommon_length len typ)).right (encPph_length p hp),
    by rw [List.length_append, List.length_append, encCommon_length, encPph_length p hp, ← Nat.add_assoc]⟩

/-- **Route Monitoring** (type 0): accepted whatever follows the per-peer header; the octets handed to
the UPDATE decoder are exactly the embedded UPDATE -/
theorem route_monitoring_accepted (len : Nat) (p : Pph) (hp : WfPph p) (hpt : p.peerType ≤ 3) (upd : Bytes) :
    fromOctets deps (encCommon len 0 ++ (encPph p ++ upd)) = .ok .routeMonitoring ∧
    rmUpdateBytes (encCommon len 0 ++ (encPph p ++ upd)) = .ok upd := by
  obtain ⟨fb, hlen⟩ := body_field len 0 p hp upd
  refine ⟨fromOctets_enc len 0 _ _ rfl (routeMonitoringCheck_ok.2 (bothCheck_enc len 0 (by omega) p hp hpt _)), ?_⟩
  rw [rmUpdateBytes, COFF, if_pos (by omega), fb.drop hlen.symm]

/-- **Route Mirroring** (type 6): accepted whatever follows the per-peer header -/
theorem route_mirroring_accepted (len : Nat) (p : Pph) (hp : WfPph p) (hpt : p.peerType ≤ 3) (body : Bytes) :
    fromOctets deps (encCommon len 6 ++ (encPph p ++ body)) = .ok .routeMirroring :=
  fromOctets_enc len 6 _ _ rfl (routeMonitoringCheck_ok.2 (bothCheck_enc len 6 (by omega) p hp hpt _))

/-- **Statistics Report** (type 1): accepted for every list of statistics (every defined type and
unknown ones, any number below 2^32); `statistics_roundtrip` (with `hdr` = the two headers) says what
the iterator then yields -/
theorem statistics_accepted (len : Nat) (p : Pph) (hp : WfPph p) (hpt : p.peerType ≤ 3) (ss : List Stat)
    (hn : ss.length < 4294967296) (h : ∀ s ∈ ss, WfStat s) :
    fromOctets deps (encCommon len 1 ++ (encPph p ++ (be32 ss.length ++ ss.flatMap encStat)))
      = .ok .statisticsReport := by
  obtain ⟨fb, hlen⟩ := body_field len 1 p hp (be32 ss.length ++ ss.flatMap encStat)
  refine fromOctets_enc len 1 _ _ rfl (statsCheck_ok.2 ⟨bothCheck_enc len 1 (by omega) p hp hpt _, ?_, ?_⟩)
  · rw [hlen, List.length_append, be32_length]; omega
  · rw [fb.left.beAt (n := 4) rfl, beNat_be32 _ hn]
    exact statsLoop_field encStat ss (fun s hs => framed_stat s (h s hs)) (fb.right (n := 4) rfl)

/-- **Initiation** (type 4): accepted for every list of Information TLVs (`initiation_roundtrip`
says what the iterator yields) -/
theorem initiation_accepted (len : Nat) (ts : List (Nat × Nat × Bytes)) (h : ∀ t ∈ ts, WfTlv t) :
    fromOctets deps (encCommon len 4 ++ ts.flatMap encTlv) = .ok .initiation :=
  fromOctets_enc len 4 _ _ rfl (initiationCheck_ok.2 ⟨commonCheck_enc len 4 (by omega) _,
    tlvCheck_field encTlv ts (fun t ht => framed_tlv t (h t ht)) (.last rfl)
      (by rw [List.length_append, encCommon_length])⟩)

/-- **Termination** (type 5): accepted for every list of strings and reason codes
(`termination_roundtrip` says what the iterator yields) -/
theorem termination_accepted (len : Nat) (ts : List TermInfo) (h : ∀ t ∈ ts, WfTerm t) :
    fromOctets deps (encCommon len 5 ++ ts.flatMap encTerm) = .ok .termination :=
  fromOctets_enc len 5 _ _ rfl (initiationCheck_ok.2 ⟨commonCheck_enc len 5 (by omega) _,
    tlvCheck_field encTerm ts (fun t ht => framed_term t (h t ht)) (.last rfl)
      (by rw [List.length_append, encCommon_length])⟩)

/-- **Peer Down** (type 2): accepted with reason 1 / 3 followed by nothing or by a NOTIFICATION the
NOTIFICATION decoder accepts, with reason 2 followed by (at least) the two octets of the FSM code, and
with every other reason octet whatever follows (`peer_down_roundtrip` says what the accessors report) -/
theorem peer_down_accepted (len : Nat) (p : Pph) (hp : WfPph p) (hpt : p.peerType ≤ 3) (reason : Nat)
    (hr : reason < 256) (payload : Bytes)
    (h13 : reason = 1 ∨ reason = 3 → payload = [] ∨ ∃ k, deps.notifParse payload = .ok k)
    (h2 : reason = 2 → 2 ≤ payload.length) :
    fromOctets deps (encCommon len 2 ++ (encPph p ++ (UInt8.ofNat reason :: payload))) = .ok .peerDown := by
  obtain ⟨fb, hlen⟩ := body_field len 2 p hp (UInt8.ofNat reason :: payload)
  rw [List.length_cons] at hlen
  refine fromOctets_enc len 2 _ _ rfl (peerDownCheck_ok.2 ⟨bothCheck_enc len 2 (by omega) p hp hpt _, by omega, ?_⟩)
  rw [fb.first.beAt (n := 1) rfl, beNat_byte, Nat.mod_eq_of_lt hr, fb.rest.drop (by omega)]
  split
  · rename_i c13
    rcases h13 c13 with rfl | hk
    · exact .inl (Nat.le_of_eq hlen)
    · exact .inr hk
  · intro c2
    have := h2 c2
    omega

/-- **Peer Up** (type 3): a message whose body is the 16-octet local-address field (`z` its first 12
octets, `a4` its last 4), the two ports, two OPEN messages each of which `OpenMessage::check`
accepts (C03: `Rc.Open.openCheck`) and Information TLVs is ACCEPTED, and the accessors report:
the ports; the sent OPEN and the received OPEN **byte for byte**; the TLVs in order; the local
address as IPv4 `a4` when the first 12 octets are zero (RFC 7854: an IPv4 address is carried in the
last 4 octets, the rest zero-filled) and as the 16 octets `z ++ a4` (IPv6) otherwise.  (As coded,
message.rs `local_address`: the family is taken from the zero test, not from the per-peer header's
V flag, so an IPv6 local address inside ::/96 is reported as the IPv4 address of its last four
octets.) -/
theorem peer_up_accepted_roundtrip (len : Nat) (p : Pph) (hp : WfPph p) (hpt : p.peerType ≤ 3)
    (z a4 : Bytes) (hz : z.length = 12) (ha : a4.length = 4) (lp rp : Nat) (hlp : lp < 65536) (hrp : rp < 65536)
    (sent rcvd : Bytes) (hs : Rc.Open.openCheck sent = .ok ()) (hr : Rc.Open.openCheck rcvd = .ok ())
    (tlvs : List (Nat × Nat × Bytes)) (ht : ∀ t ∈ tlvs, WfTlv t) :
    fromOctets deps (encCommon len 3 ++ (encPph p ++ encPeerUpBody z a4 lp rp sent rcvd tlvs)) = .ok .peerUp ∧
    peerUp deps (encCommon len 3 ++ (encPph p ++ encPeerUpBody z a4 lp rp sent rcvd tlvs))
      = .ok ⟨!(z.all (· == 0)), if z.all (· == 0) then a4 else z ++ a4, lp, rp, sent, rcvd, tlvs⟩ := by
  obtain ⟨fb, hlen⟩ := body_field len 3 p hp (encPeerUpBody z a4 lp rp sent rcvd tlvs)
  have hb := bothCheck_enc len 3 (by omega) p hp hpt (encPeerUpBody z a4 lp rp sent rcvd tlvs)
  generalize hbs : encCommon len 3 ++ (encPph p ++ encPeerUpBody z a4 lp rp sent rcvd tlvs) = bs at fb hlen hb ⊢
  unfold encPeerUpBody at fb hlen
  have f60 := fb.right hz
  have f64 := f60.right ha
  have f66 := f64.right (n := 2) rfl
  have f68 := f66.right (n := 2) rfl
  have fr := f68.right (n := sent.length) rfl
  have ft := fr.right (n := rcvd.length) rfl
  simp only [List.length_append, hz, ha, be16_length] at hlen
  have hds : bs.drop 68 = sent ++ (rcvd ++ tlvs.flatMap encTlv) := f68.drop (by simp only [List.length_append]; omega)
  have hdr : bs.drop (68 + sent.length) = rcvd ++ tlvs.flatMap encTlv := fr.drop (by simp only [List.length_append]; omega)
  have hps : deps.openParse (bs.drop 68) = .ok sent.length := by
    rw [hds, embedded_open_iff_checked]
    exact ⟨by simp [List.length_append], by simpa using hs⟩
  have hpr : deps.openParse (bs.drop (68 + sent.length)) = .ok rcvd.length := by
    rw [hdr, embedded_open_iff_checked]
    exact ⟨by simp [List.length_append], by simpa using hr⟩
  have hc : peerUpCheck deps bs = .ok () :=
    peerUpCheck_ok.2 ⟨hb, by omega, _, hps, _, hpr,
      tlvCheck_field encTlv tlvs (fun t h => framed_tlv t (ht t h)) ft (by omega)⟩
  refine ⟨by subst hbs; exact fromOctets_enc len 3 .peerUp _ rfl hc, ?_⟩
  · obtain ⟨-, n1, n2, h1, h2, -, -, hsent, hrcvd, htl⟩ := peerUp_of_check embedded_decoders_total hc
    obtain rfl : sent.length = n1 := Outcome.ok.inj (hps.symm.trans h1)
    obtain rfl : rcvd.length = n2 := Outcome.ok.inj (hpr.symm.trans h2)
    rw [hds, List.take_left] at hsent
    rw [hdr, List.take_left] at hrcvd
    rw [peerUp, COFF, fb.left.slice (by rw [hz]), f64.left.rdBE (n := 2) rfl, f66.left.rdBE (n := 2) rfl]
    dsimp only
    rw [hsent, hrcvd, htl, infoTlvIter_field tlvs ft (by omega) (by omega) ht, beNat_be16 _ hlp,
      beNat_be16 _ hrp]
    by_cases hv : (z.all fun x => x == 0) = true
    · rw [if_pos hv, f60.left.slice (by rw [ha]), hv]
      rfl
    · have fza : Field bs 48 (z ++ a4) := (List.append_assoc z a4 _ ▸ fb).left
      rw [if_neg hv, fza.slice (by rw [List.length_append, hz, ha]), Bool.eq_false_iff.2 hv]
      rfl

/-- non-vacuity: a minimal OPEN and the 55-octet OPEN with four capabilities of the example above
satisfy the hypothesis on the embedded OPENs -/
example : Rc.Open.openCheck (Rc.Open.marker ++ [0, 29, 1, 4, 0xfd, 0xea, 0, 90, 10, 0, 0, 2, 0]) = .ok () ∧
    Rc.Open.openCheck (Rc.Open.marker ++ [0, 55, 1, 4, 0xfd, 0xea, 0, 90, 10, 0, 0, 2, 26, 2, 24,
      1, 4, 0, 1, 0, 1, 65, 4, 0, 0, 0xfd, 0xea, 69, 4, 0, 1, 1, 3, 73, 4, 1, 0x41, 1, 0x42]) = .ok () := by
  decide

end Rc.Thm.C15
