/-
C12 – the negotiated parse configuration matches the capabilities both sides
sent.  Statements about Rc/Model/Negotiate.lean; the last section ties the OPEN a live session
sends to it through C03's model of `OpenBuilder`.
-/
import Rc.Model.Negotiate
import Rc.Thm.C03

namespace Rc.Thm.C12
open Rc Rc.Negotiate

/-- an OPEN advertises "receive (or both)" / "send (or both)" for a family -/
def advRecv (d : Option Dir) : Prop := d = some .recv ∨ d = some .both
def advSend (d : Option Dir) : Prop := d = some .send ∨ d = some .both

instance (d : Option Dir) : Decidable (advRecv d) := by unfold advRecv; exact inferInstance
instance (d : Option Dir) : Decidable (advSend d) := by unfold advSend; exact inferInstance

/-- no family occurs twice in an ADD-PATH list -/
def NoDupFam : FamList → Prop
  | [] => True
  | (g, _) :: r => lookup r g = none ∧ NoDupFam r

def rxOf (d : Option Dir) : Bool := match d with | some .recv | some .both => true | _ => false
def txOf (d : Option Dir) : Bool := match d with | some .send | some .both => true | _ => false

/-- what negotiation yields for one family from the two advertised directions -/
def mergeOpt (a b : Option Dir) : Option Dir := a.bind fun x => b.bind (merge x)

/-! ## the per-family core: all 16 combinations of {absent, receive, send, both}² -/

/-- receive is enabled exactly when we advertise receive (or both) and the peer send (or both) -/
theorem core_rx (a b : Option Dir) : rxOf (mergeOpt a b) = true ↔ advRecv a ∧ advSend b := by
  rcases a with _ | a <;> rcases b with _ | b <;> (try cases a) <;> (try cases b) <;> decide

/-- swapping the two sides swaps send and receive -/
theorem core_swap (a b : Option Dir) : rxOf (mergeOpt a b) = txOf (mergeOpt b a) := by
  rcases a with _ | a <;> rcases b with _ | b <;> (try cases a) <;> (try cases b) <;> decide

/-- sending symmetrically -/
theorem core_tx (a b : Option Dir) : txOf (mergeOpt a b) = true ↔ advSend a ∧ advRecv b := by
  rw [← core_swap b a, core_rx, and_comm]

/-- `AddpathFamDir::merge` is the per-family core restricted to equal families -/
theorem famDirMerge_spec (f g : Fam) (a b : Dir) :
    famDirMerge (f, a) (g, b) = if f = g then (mergeOpt (some a) (some b)).map fun d => (f, d) else none := by
  unfold famDirMerge mergeOpt
  by_cases h : f = g <;> simp [h]

private theorem get_addAll (c : Config) (l : FamList) (f : Fam) (h : NoDupFam l) :
    (c.addAll l).get f = match lookup l f with | some d => some d | none => c.get f := by
  fun_induction Config.addAll c l with
  | case1 => rfl
  | case2 c g d _ ih =>
    rw [ih h.2, lookup]
    by_cases hg : g = f
    · subst hg; simp [h.1, Config.insert, Config.get]
    · have hg' : ¬ f = g := fun e => hg e.symm
      simp [hg, hg', Config.insert, Config.get]

private theorem lookup_intersection (mine other : FamList) (f : Fam) (h : NoDupFam mine) :
    lookup (intersection mine other) f = mergeOpt (lookup mine f) (lookup other f) := by
  fun_induction intersection mine other with
  | case1 => simp [lookup, mergeOpt]
  | case2 g _ _ _ _ hm ih =>
    by_cases hg : g = f
    · subst hg
      simp [lookup, mergeOpt, hm]
    · simp [lookup, hg, ih h.2]
  | case3 g _ _ _ hm ih =>
    by_cases hg : g = f
    · subst hg
      simp [lookup, mergeOpt, hm, ih h.2, h.1]
    · simp [lookup, hg, ih h.2]

private theorem nodup_intersection (mine other : FamList) (h : NoDupFam mine) :
    NoDupFam (intersection mine other) := by
  fun_induction intersection mine other with
  | case1 => trivial
  | case2 g _ r _ _ _ ih =>
    refine ⟨?_, ih h.2⟩
    rw [lookup_intersection r _ g h.2, h.1]; rfl
  | case3 _ _ _ _ _ ih => exact ih h.2

private theorem get_helper (loc peer : OpenInfo) (f : Fam) (h : NoDupFam loc.ap) :
    (helper loc peer).get f = mergeOpt (lookup loc.ap f) (lookup peer.ap f) := by
  unfold helper
  rw [get_addAll _ _ _ (nodup_intersection _ _ h), lookup_intersection _ _ _ h]
  cases mergeOpt (lookup loc.ap f) (lookup peer.ap f) <;> simp [Config.new, Config.get]

/-- **rx_iff** – the configuration derived by the helper enables ADD-PATH
reception for a family exactly when the local OPEN advertised receive (or
both) and the peer's OPEN send (or both) for it.  (`lookup` is the first entry
for the family; the local list must not name a family twice – with duplicates
the later insert wins, see `first_match_rule`.) -/
theorem rx_iff (loc peer : OpenInfo) (f : Fam) (h : NoDupFam loc.ap) :
    (helper loc peer).rx f = true ↔ advRecv (lookup loc.ap f) ∧ advSend (lookup peer.ap f) := by
  show rxOf ((helper loc peer).get f) = true ↔ _
  rw [get_helper loc peer f h]
  exact core_rx _ _

/-- **tx_iff** – and sending symmetrically -/
theorem tx_iff (loc peer : OpenInfo) (f : Fam) (h : NoDupFam loc.ap) :
    (helper loc peer).tx f = true ↔ advSend (lookup loc.ap f) ∧ advRecv (lookup peer.ap f) := by
  show txOf ((helper loc peer).get f) = true ↔ _
  rw [get_helper loc peer f h]
  exact core_tx _ _

/-- **swap** – swapping the two OPENs swaps send and receive, for every family -/
theorem swap (a b : OpenInfo) (f : Fam) (ha : NoDupFam a.ap) (hb : NoDupFam b.ap) :
    (helper a b).rx f = (helper b a).tx f := by
  show rxOf ((helper a b).get f) = txOf ((helper b a).get f)
  rw [get_helper a b f ha, get_helper b a f hb]
  exact core_swap _ _

/-- With a family named twice in the peer's OPEN its *first* entry counts
(`Iterator::find`), whatever follows. -/
theorem first_match_rule (loc : OpenInfo) (pfour : Bool) (g : Fam) (d : Dir) (rest : FamList)
    (h : NoDupFam loc.ap) :
    (helper loc ⟨pfour, (g, d) :: rest⟩).get g = mergeOpt (lookup loc.ap g) (some d) := by
  rw [get_helper _ _ _ h]; simp [lookup]

private theorem four_addAll (c : Config) (l : FamList) : (c.addAll l).four = c.four := by
  fun_induction Config.addAll c l with
  | case1 => rfl
  | case2 _ _ _ _ ih => exact ih

/-- **four_octet_iff** – four-octet AS decoding is enabled exactly when both
OPENs carry the capability (helper and BMP `session_config`); for
`pph_session_config` it is what the per-peer header's A flag dictates, and the
second component reports exactly a disagreement between the two. -/
theorem four_octet_iff (a b : OpenInfo) (legacy : Bool) :
    ((helper a b).four = true ↔ a.four = true ∧ b.four = true) ∧
    ((bmpConfig a b).four = true ↔ a.four = true ∧ b.four = true) ∧
    ((pphConfig a b legacy).1.four = true ↔ legacy = false) ∧
    ((pphConfig a b legacy).2 = true ↔ ¬ ((legacy = false) ↔ (a.four = true ∧ b.four = true))) := by
  simp only [helper, bmpConfig, pphConfig, four_addAll, Config.new]
  cases a.four <;> cases b.four <;> cases legacy <;> simp

/-- the live session's list IS the helper's intersection for the OPEN the session sends -/
private theorem liveList_eq (cf : List Fam) (l : FamList) :
    liveList cf l = intersection (cf.map (·, Dir.both)) l := by
  induction cf with
  | nil => simp [liveList, intersection]
  | cons g r ih =>
    have ih' : List.filterMap (fun g => ((lookup l g).bind (merge .both)).map fun m => (g, m)) r =
        intersection (r.map (·, Dir.both)) l := ih
    simp only [liveList, List.map_cons, List.filterMap_cons, intersection]
    cases hm : (lookup l g).bind (merge .both) with
    | some m => simp only [Option.map_some]; exact congrArg _ ih'
    | none => simp only [Option.map_none]; exact ih'

/-- for the OPEN a live session sends, live session and helper derive the same family map and flag -/
theorem live_eq_helper (cf : List Fam) (peer : OpenInfo) :
    (liveConfig cf peer).fams = (helper (liveLocal cf) peer).fams ∧
    (liveConfig cf peer).four = (helper (liveLocal cf) peer).four := by
  constructor
  · simp [liveConfig, helper, liveLocal, liveList_eq]
  · simp [liveConfig, helper, four_addAll, Config.new, liveLocal]

/-- **three_agree** – "holds identically for the intersection helper, the BMP peer-up derivation
and the live session": for the OPEN a live session sends (`liveLocal cf`: four-octet capability,
SendReceive for each configured family – any list of configured families, repetitions allowed)
and ANY peer OPEN (any ADD-PATH list, families named twice included: all three take the peer's
first entry, since the first-match fix of the session), the three derivations produce the same
configuration: the same direction for every family and the same four-octet flag.  (That the OPEN
really sent is `liveLocal cf` is tied by the correspondence fields `sent4=`/`sentap=`; with 59 or
more configured families `send_open` panics in `OpenBuilder::finish`, known finding K4, and no
OPEN is sent at all.) -/
theorem three_agree (cf : List Fam) (peer : OpenInfo) (f : Fam) :
    (liveConfig cf peer).get f = (helper (liveLocal cf) peer).get f ∧
    (bmpConfig (liveLocal cf) peer).get f = (helper (liveLocal cf) peer).get f ∧
    (liveConfig cf peer).four = (helper (liveLocal cf) peer).four ∧
    (bmpConfig (liveLocal cf) peer).four = (helper (liveLocal cf) peer).four :=
  ⟨congrFun (live_eq_helper cf peer).1 f, rfl, (live_eq_helper cf peer).2, rfl⟩

private theorem get_addAll_fm (F : Fam → Option Dir) (cf : List Fam) (c : Config) (f : Fam) :
    (c.addAll (cf.filterMap fun g => (F g).map fun m => (g, m))).get f =
      if cf.contains f then (match F f with | some d => some d | none => c.get f) else c.get f := by
  induction cf generalizing c with
  | nil => simp [Config.addAll]
  | cons g r ih =>
    simp only [List.filterMap_cons]
    cases hF : F g with
    | none =>
      simp only [Option.map_none]
      rw [ih]
      by_cases hg : g = f
      · subst hg; simp [hF]
      · have : ¬ f = g := fun e => hg e.symm
        simp [this]
    | some m =>
      simp only [Option.map_some, Config.addAll]
      rw [ih]
      by_cases hg : g = f
      · subst hg; simp [hF, Config.insert, Config.get]
      · have : ¬ f = g := fun e => hg e.symm
        simp [this, Config.insert, Config.get]

/-- what the live session stores for a family: SendReceive merged with the peer's first entry
for it if the family is configured, nothing otherwise – for ANY configuration list and peer list -/
theorem live_get (cf : List Fam) (peer : OpenInfo) (f : Fam) :
    (liveConfig cf peer).get f =
      if cf.contains f then mergeOpt (some .both) (lookup peer.ap f) else none := by
  unfold liveConfig liveList
  rw [get_addAll_fm (fun g => (lookup peer.ap g).bind (merge .both))]
  by_cases hcf : f ∈ cf
  · simp only [List.contains_iff_mem, hcf, if_true, mergeOpt, Option.bind_some]
    cases (lookup peer.ap f).bind (merge .both) <;> simp [Config.new, Config.get]
  · simp [hcf, Config.new, Config.get]

private theorem live_merged (cf : List Fam) (peer : OpenInfo) (f : Fam) :
    (liveConfig cf peer).get f =
      mergeOpt (if cf.contains f then some .both else none) (lookup peer.ap f) := by
  rw [live_get]
  split <;> rfl

/-- the live session's reception flag, spelled out: rx for a family iff it is
configured locally and the peer advertised send (or both) in its first entry for the family -/
theorem live_rx_iff (cf : List Fam) (peer : OpenInfo) (f : Fam) :
    (liveConfig cf peer).rx f = true ↔ cf.contains f = true ∧ advSend (lookup peer.ap f) := by
  show rxOf ((liveConfig cf peer).get f) = true ↔ _
  rw [live_merged, core_rx]
  by_cases hcf : f ∈ cf <;> simp [hcf, advRecv]

/-- sending, for the live session -/
theorem live_tx_iff (cf : List Fam) (peer : OpenInfo) (f : Fam) :
    (liveConfig cf peer).tx f = true ↔ cf.contains f = true ∧ advRecv (lookup peer.ap f) := by
  show txOf ((liveConfig cf peer).get f) = true ↔ _
  rw [live_merged, core_tx]
  by_cases hcf : f ∈ cf <;> simp [hcf, advSend]

/-! ## the BMP derivations, at the generality of the helper

`session_config` and `pph_session_config` run the same `addpath_intersection` on (sent, rcvd);
the model terms coincide, so every ADD-PATH statement about `helper` is one about them. -/

theorem bmp_eq_helper (sent rcvd : OpenInfo) : bmpConfig sent rcvd = helper sent rcvd := rfl

theorem pph_fams_eq_helper (sent rcvd : OpenInfo) (legacy : Bool) (f : Fam) :
    (pphConfig sent rcvd legacy).1.get f = (helper sent rcvd).get f := by
  have h : ∀ (c₁ c₂ : Config) (l : FamList), c₁.fams = c₂.fams →
      (c₁.addAll l).fams = (c₂.addAll l).fams := by
    intro c₁ c₂ l h0
    fun_induction Config.addAll c₁ l generalizing c₂ with
    | case1 => exact h0
    | case2 _ _ _ _ ih => exact ih (c₂.insert _ _) (by simp [Config.insert, h0])
  simp only [pphConfig, helper, Config.get]
  rw [h (Config.new (!legacy)) (Config.new (sent.four && rcvd.four)) _ rfl]

/-- rx / tx / swap for both BMP derivations, any sent and received OPEN -/
theorem bmp_rx_tx_iff (sent rcvd : OpenInfo) (legacy : Bool) (f : Fam) (h : NoDupFam sent.ap) :
    ((bmpConfig sent rcvd).rx f = true ↔ advRecv (lookup sent.ap f) ∧ advSend (lookup rcvd.ap f)) ∧
    ((bmpConfig sent rcvd).tx f = true ↔ advSend (lookup sent.ap f) ∧ advRecv (lookup rcvd.ap f)) ∧
    ((pphConfig sent rcvd legacy).1.rx f = true ↔ advRecv (lookup sent.ap f) ∧ advSend (lookup rcvd.ap f)) ∧
    ((pphConfig sent rcvd legacy).1.tx f = true ↔ advSend (lookup sent.ap f) ∧ advRecv (lookup rcvd.ap f)) := by
  refine ⟨rx_iff sent rcvd f h, tx_iff sent rcvd f h, ?_, ?_⟩
  · have := rx_iff sent rcvd f h
    unfold Config.rx at this ⊢
    rwa [pph_fams_eq_helper]
  · have := tx_iff sent rcvd f h
    unfold Config.tx at this ⊢
    rwa [pph_fams_eq_helper]

theorem bmp_swap (a b : OpenInfo) (l₁ l₂ : Bool) (f : Fam) (ha : NoDupFam a.ap) (hb : NoDupFam b.ap) :
    (bmpConfig a b).rx f = (bmpConfig b a).tx f ∧
    (pphConfig a b l₁).1.rx f = (pphConfig b a l₂).1.tx f := by
  refine ⟨swap a b f ha hb, ?_⟩
  have := swap a b f ha hb
  unfold Config.rx Config.tx at this ⊢
  rwa [pph_fams_eq_helper, pph_fams_eq_helper]

/-! ## OPENs whose ADD-PATH capabilities do not all read

`OpenMessage::from_octets` accepts an ADD-PATH capability whose later tuples carry a direction
outside 1..3 or whose length is not a multiple of four; `addpath_families_vec` then fails.  The
property's "for every pair of OPEN messages" is read over pairs whose ADD-PATH capabilities are
well-formed (RFC 7911); for the others the code's behaviour is mirrored and stated here. -/

/-- on OPENs that read, the `…E` functions are the ones the theorems above speak about -/
theorem readable_same (a b : OpenInfo) (cf : List Fam) (legacy : Bool) :
    helperE ⟨a.four, some a.ap⟩ ⟨b.four, some b.ap⟩ = helper a b ∧
    bmpConfigE ⟨a.four, some a.ap⟩ ⟨b.four, some b.ap⟩ = bmpConfig a b ∧
    pphConfigE ⟨a.four, some a.ap⟩ ⟨b.four, some b.ap⟩ legacy = pphConfig a b legacy ∧
    liveConfigE cf ⟨b.four, some b.ap⟩ = some (liveConfig cf b) :=
  ⟨rfl, rfl, rfl, rfl⟩

/-- if either OPEN's ADD-PATH list is unreadable, helper and both BMP derivations enable
ADD-PATH for no family (the four-octet flag is derived as usual), and the live session refuses
the peer's OPEN -/
theorem unreadable_no_addpath (a b : OpenRd) (legacy : Bool) (cf : List Fam) (f : Fam)
    (h : a.ap = none ∨ b.ap = none) :
    (helperE a b).get f = none ∧ (bmpConfigE a b).get f = none ∧
    (pphConfigE a b legacy).1.get f = none ∧
    (helperE a b).four = (a.four && b.four) ∧
    (b.ap = none → liveConfigE cf b = none) := by
  have hi : intersectionE a.ap b.ap = [] := by
    rcases h with h | h
    · simp [intersectionE, h]
    · cases ha : a.ap <;> simp [intersectionE, h]
  refine ⟨?_, ?_, ?_, ?_, ?_⟩
  · simp [helperE, hi, Config.addAll, Config.new, Config.get]
  · simp [bmpConfigE, hi, Config.addAll, Config.new, Config.get]
  · simp [pphConfigE, hi, Config.addAll, Config.new, Config.get]
  · simp [helperE, hi, Config.addAll, Config.new]
  · intro hb; simp [liveConfigE, hb]

/-- **second_connection_agrees** – "holds identically", applied to the second connection of one
Session object: whatever the first OPEN exchange negotiated (any first peer OPEN that was
accepted), the configuration of the second connection is the one helper and BMP derive from the
second pair of OPENs alone. -/
theorem second_connection_agrees (cf : List Fam) (peer1 : OpenRd) (peer2 : OpenInfo) (c : Config)
    (h : liveSecond cf peer1 ⟨peer2.four, some peer2.ap⟩ = some c) (f : Fam) :
    c.get f = (helper (liveLocal cf) peer2).get f ∧ c.get f = (bmpConfig (liveLocal cf) peer2).get f ∧
    c.four = (helper (liveLocal cf) peer2).four := by
  unfold liveSecond at h
  cases h1 : liveConfigE cf peer1 with
  | none => rw [h1] at h; simp at h
  | some c1 =>
    rw [h1] at h
    have h2 : liveConfig cf peer2 = c := by
      simpa [liveConfigE] using h
    subst h2
    have := three_agree cf peer2 f
    exact ⟨this.1, this.1, this.2.2.1⟩

/-! ## the OPEN a live session sends

`Session::send_open` (session.rs:379) builds its OPEN with `OpenBuilder`: four-octet capability,
one multiprotocol capability per configured protocol, `add_addpath(fam, SendReceive)` per
configured ADD-PATH family.  Through the C03 model of `OpenBuilder::finish` and the C03
decode-after-encode theorem: as long as the capability bytes fit (`capBytes ≤ 253`, i.e. up to 58
families with two protocols) the OPEN sent carries the four-octet capability and reads back as
exactly `liveLocal cf`.  Beyond that `finish` overflows (known finding K4) and `send_open` panics. -/

open Rc.Open in
/-- the builder as `send_open` fills it -/
def sentBuilder (asn ht : Nat) (id : Bytes) (mps cf : List Fam) : Builder :=
  ⟨asn, ht, id, fourOctetCapBytes asn :: mps.map (fun f => mpCapBytes f.1 f.2),
   cf.map fun f => (f.1, f.2, 3)⟩

open Rc.Open in
private theorem apSpec_skip (cs : List Cap) (h : ∀ c ∈ cs, c.code.toNat ≠ 69) (tail : List Cap) :
    apSpec (cs ++ tail) = apSpec tail := by
  induction cs with
  | nil => rfl
  | cons c cs ih =>
    have h1 := h c (by simp)
    simp only [List.cons_append, apSpec, h1, if_false]
    exact ih (fun c' hc' => h c' (by simp [hc']))

open Rc.Open Rc.Thm.C03 in
/-- **sent_open_is_liveLocal** – for every AS number, hold time, identifier, protocol list and
ADD-PATH family list that fit: `finish` succeeds and the OPEN it yields has the four-octet
capability and the ADD-PATH list `cf × SendReceive` – the `liveLocal cf` of `three_agree`. -/
theorem sent_open_is_liveLocal (asn ht : Nat) (id : Bytes) (mps cf : List Fam)
    (hid : id.length = 4) (hht : ht < 65536)
    (hcf : ∀ f ∈ cf, f.1 < 65536 ∧ f.2 < 256)
    (hb : capBytes (sentBuilder asn ht id mps cf) ≤ 253) :
    ∃ bs, finish (sentBuilder asn ht id mps cf) = .ok bs ∧
      fourOctetCapable bs = .ok true ∧
      addpathFamiliesVec bs = .ok (cf.map fun f => (f.1, f.2, (Dir.both).code)) := by
  let cs : List Cap := ⟨65, be32 asn⟩ :: mps.map (fun f => ⟨1, be16 f.1 ++ [0x00, UInt8.ofNat f.2]⟩)
  have hcaps : (sentBuilder asn ht id mps cf).caps = cs.map encCap := by
    simp only [sentBuilder, cs, List.map_cons, List.map_map]
    congr 1
  have hwfc : ∀ c ∈ cs, WfCap c := by
    intro c hc
    simp only [cs, List.mem_cons, List.mem_map] at hc
    rcases hc with rfl | ⟨f, _, rfl⟩
    · exact wfCap_examples.2.1 _ _ _ _
    · exact wfCap_examples.1 _ _ _ _
  have hape : ∀ e ∈ (sentBuilder asn ht id mps cf).addpath, WfApEntry e := by
    intro e he
    simp only [sentBuilder, List.mem_map] at he
    obtain ⟨f, hf, rfl⟩ := he
    exact ⟨(hcf f hf).1, (hcf f hf).2, by simp, by simp⟩
  have hw : WfBuilder (sentBuilder asn ht id mps cf) cs := ⟨hid, hht, hcaps, hwfc, hape⟩
  obtain ⟨hfin, hwo⟩ := open_builder_roundtrip_partial _ cs hw hb
  obtain ⟨_, _, _, _, _, _, _, _, _, _, hfour, _, hap, _⟩ := open_decode_encode _ _ hwo
  refine ⟨_, hfin, ?_, ?_⟩
  · rw [hfour, allCaps_builderParams]
    simp [builderCaps, cs]
  · rw [hap, allCaps_builderParams]
    apply apLoop_ok_spec
    have hno : ∀ c ∈ cs, c.code.toNat ≠ 69 := by
      intro c hc
      simp only [cs, List.mem_cons, List.mem_map] at hc
      rcases hc with rfl | ⟨f, _, rfl⟩ <;> simp
    rw [builderCaps, apSpec_skip cs hno]
    by_cases hemp : cf = []
    · subst hemp
      rfl
    · have hne : (sentBuilder asn ht id mps cf).addpath.isEmpty = false := by simp [sentBuilder, hemp]
      simp only [hne, Bool.false_eq_true, if_false, apSpec, show (69 : UInt8).toNat = 69 from rfl, if_true,
        apValue_enc _ hape]
      simp [sentBuilder, Dir.code]

/-- the harness's configuration (AS 65001, protocols 1/1 and 2/1) with two ADD-PATH families fits -/
example : Rc.Thm.C03.capBytes (sentBuilder 65001 90 [10, 0, 0, 1] [(1, 1), (2, 1)] [(1, 1), (2, 1)]) ≤ 253 := by
  decide

example : NoDupFam [((1, 1), .both), ((2, 1), .send), ((1, 2), .recv)] := by simp [NoDupFam, lookup]

end Rc.Thm.C12
