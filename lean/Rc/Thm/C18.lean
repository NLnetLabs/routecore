/-
C18 – Protocol code points map losslessly to enums and back.

Property theorems only.  The generic theorems hold for *every* positional table (they mention no
generated constant and cannot fail when the source changes); the theorems named `generated_*`,
`header_msg_type_*`, `apdir_*`, `segtype_*` and the details theorems are about the tables
regenerated from /repo's sources on every run (Rc/Gen/Codepoints.lean) and are re-decided then.
-/
import Rc.Model.Codepoint
import Rc.Gen.Codepoints

namespace Rc.Thm.C18
open Rc Rc.Codepoint

/-! "First matching arm wins" is what `List.findIdx?` computes: the three searches are put in that form,
and the library says what a found index means. -/

private theorem findIdx_eq (cs : List Nat) (n : Nat) : findIdx cs n = cs.findIdx? (· = n) := by
  induction cs with
  | nil => rfl
  | cons c cs ih => rw [findIdx, List.findIdx?_cons, ih]; simp only [decide_eq_true_eq]

private theorem findPair_eq (ps : List (Nat × Nat)) (q : Nat × Nat) : findPair ps q = ps.findIdx? (· = q) := by
  induction ps with
  | nil => rfl
  | cons p ps ih => rw [findPair, List.findIdx?_cons, ih]; simp only [decide_eq_true_eq]

private theorem findRange_eq (rs : List (Nat × Nat)) (n : Nat) :
    findRange rs n = rs.findIdx? (fun r => r.1 ≤ n ∧ n ≤ r.2) := by
  induction rs with
  | nil => rfl
  | cons r rs ih => rw [findRange, List.findIdx?_cons, ih]; simp only [decide_eq_true_eq]

private theorem findIdx?_eq_get {α} [DecidableEq α] {l : List α} {a : α} {i : Nat}
    (h : l.findIdx? (· = a) = some i) : l[i]? = some a := by
  obtain ⟨hi, ha, _⟩ := List.findIdx?_eq_some_iff_getElem.mp h
  exact List.getElem?_eq_some_iff.mpr ⟨hi, of_decide_eq_true ha⟩

private theorem findIdx?_getElem_of_nodup {α} [DecidableEq α] {l : List α} (hn : l.Nodup) {i : Nat}
    (hi : i < l.length) : l.findIdx? (· = l[i]) = some i :=
  List.findIdx?_eq_some_iff_getElem.mpr ⟨hi, decide_eq_true rfl, fun _ hji h =>
    Nat.ne_of_lt hji ((List.getElem_inj hn).mp (of_decide_eq_true h))⟩

private theorem findRange_in {rs : List (Nat × Nat)} {n j : Nat} (h : findRange rs n = some j) :
    ∃ lo hi, rs[j]? = some (lo, hi) ∧ lo ≤ n ∧ n ≤ hi := by
  rw [findRange_eq] at h
  obtain ⟨hj, hp, _⟩ := List.findIdx?_eq_some_iff_getElem.mp h
  exact ⟨_, _, List.getElem?_eq_getElem hj, of_decide_eq_true hp⟩

private theorem findRange_pairwise {rs : List (Nat × Nat)}
    (hp : rs.Pairwise (fun r q => r.2 < q.1 ∨ q.2 < r.1)) {j : Nat} (hj : j < rs.length) {n : Nat}
    (hlo : rs[j].1 ≤ n) (hhi : n ≤ rs[j].2) : findRange rs n = some j := by
  rw [findRange_eq]
  refine List.findIdx?_eq_some_iff_getElem.mpr ⟨hj, decide_eq_true ⟨hlo, hhi⟩, fun k hk h => ?_⟩
  -- an earlier range holding `n` would overlap the `j`-th
  have hin := of_decide_eq_true h
  have := List.pairwise_iff_getElem.mp hp k j (Nat.lt_trans hk hj) hj hk
  omega

/-- number -> enum -> number is the identity, for every table and every number
(no width bound is even needed). -/
theorem toInt_fromInt (t : TypeEnum) (n : Nat) : toInt t (fromInt t n) = some n := by
  rw [fromInt, findIdx_eq]
  cases h : t.codes.findIdx? (· = n) with
  | some i => exact findIdx?_eq_get h
  | none => cases findRange t.ranges n <;> rfl

/-- distinct numbers never map to the same variant (named or not). -/
theorem fromInt_injective (t : TypeEnum) (n m : Nat) (h : fromInt t n = fromInt t m) : n = m := by
  have h1 := toInt_fromInt t n
  have h2 := toInt_fromInt t m
  rw [h] at h1
  rw [h1] at h2
  exact Option.some.inj h2

/-- in particular: two numbers mapping to the same *named* variant are equal. -/
theorem named_injective (t : TypeEnum) (n m i : Nat)
    (hn : fromInt t n = .named i) (hm : fromInt t m = .named i) : n = m :=
  fromInt_injective t n m (hn.trans hm.symm)

/-- unknown numbers are preserved in the catch-all rather than dropped. -/
theorem unknown_preserved (t : TypeEnum) (n v : Nat) (h : fromInt t n = .unimpl v) : v = n := by
  have := toInt_fromInt t n
  rw [h] at this
  exact Option.some.inj this

/-- a range variant carries the number, and the number lies in that range. -/
theorem range_preserved (t : TypeEnum) (n j v : Nat) (h : fromInt t n = .range j v) :
    v = n ∧ ∃ lo hi, t.ranges[j]? = some (lo, hi) ∧ lo ≤ n ∧ n ≤ hi := by
  unfold fromInt at h
  split at h
  · cases h
  · split at h
    · rename_i h2
      cases h
      exact ⟨rfl, findRange_in h2⟩
    · cases h

/-- enum -> number -> enum is the identity on every variant reachable from a
number. -/
theorem fromInt_toInt (t : TypeEnum) (n k : Nat) (h : toInt t (fromInt t n) = some k) :
    fromInt t k = fromInt t n := by
  rw [toInt_fromInt] at h
  cases h; rfl

theorem afisafi_roundtrip (tbl : List (Nat × Nat)) (a s : Nat) :
    afisafiTo tbl (afisafiFrom tbl a s) = some (a, s) := by
  rw [afisafiFrom, findPair_eq]
  cases h : tbl.findIdx? (· = (a, s)) with
  | some i => exact findIdx?_eq_get h
  | none => rfl

theorem afisafi_injective (tbl : List (Nat × Nat)) (a s a' s' : Nat)
    (h : afisafiFrom tbl a s = afisafiFrom tbl a' s') : (a, s) = (a', s') := by
  have h1 := afisafi_roundtrip tbl a s
  rw [h, afisafi_roundtrip] at h1
  exact (Option.some.inj h1).symm

/-- the 3-byte encoding AS MODELLED is the big-endian AFI followed by the SAFI.  NOTE: this restates a
definition (`afisafiBytes` is defined as `be16 afi ++ [safi]` of the round-tripped pair) and says
nothing about the Rust function `AfiSafiType::as_bytes`, which is a separate 13-arm `match`
(src/bgp/nlri/afisafi.rs): that clause is decided by the ORACLE of the harness, which compares
`as_bytes()` with an independently computed `afi.to_be_bytes() ++ [safi]` for every pair it runs
(all 2^24 pairs in the thorough tier; see tools/props/C18.json for the quick tier's coverage). -/
theorem afisafi_bytes (tbl : List (Nat × Nat)) (a s : Nat) :
    afisafiBytes tbl (afisafiFrom tbl a s) = some (be16 a ++ [UInt8.ofNat s]) := by
  simp [afisafiBytes, afisafi_roundtrip]

theorem nlritype_roundtrip (x : AfiSafi) (b : Bool) : nlriTypeAfiSafi (nlriTypeFrom x b) = x := by
  cases x <;> rfl

/-- plain and ADD-PATH variants of a family are distinct, and families stay distinct -/
theorem nlritype_injective (x y : AfiSafi) (b c : Bool) (h : nlriTypeFrom x b = nlriTypeFrom y c) :
    x = y ∧ (∀ i, x = .known i → b = c) := by
  cases x <;> cases y <;> simp_all [nlriTypeFrom]

/-- `Header::msg_type` (hand-written match) agrees with `MsgType::from` for all 256 bytes -/
theorem header_msg_type_agrees :
    ∀ n : Fin 256, msgTypeOf Gen.msgTypeArms n.val
      = fromInt (Gen.typeenums.getD Gen.msgTypeTable ⟨"", 0, [], [], [], []⟩) n.val := by
  decide +kernel

theorem header_msg_type_default : Gen.msgTypeDefaultCarries = true := by decide

/-- AddpathDirection / SegmentType: the two hand-written directions are inverse -/
theorem apdir_roundtrip : ∀ p ∈ Gen.apdirFrom, assoc Gen.apdirTo p.2 = some p.1 := by decide
theorem apdir_back : ∀ p ∈ Gen.apdirTo, assoc Gen.apdirFrom p.2 = some p.1 := by decide
theorem segtype_roundtrip : ∀ p ∈ Gen.segtypeFrom, assoc Gen.segtypeTo p.2 = some p.1 := by decide
theorem segtype_back : ∀ p ∈ Gen.segtypeTo, assoc Gen.segtypeFrom p.2 = some p.1 := by decide

/-! ## table-level well-formedness, decided for every table of the current source

The generic theorems above hold for ANY positional table (even one with a repeated code, where a
later arm would silently be dead).  What makes a table denote the enumeration its source declares is
decided here, by the kernel, for every table the translator regenerates from the current source: a
change of a `typeenum!` invocation (a duplicated or out-of-width code, a range that swallows a named
code or overlaps another range, a lost arm) re-checks - and can fail - these theorems, not only the
exhaustive harness run. -/

/-- named codes are pairwise distinct and fit the width; every named arm has its variant name and
every range arm its name; ranges are non-empty, fit the width, contain no named code and are
pairwise disjoint (so no arm of the `match` is shadowed by an earlier one) -/
def wfB (t : TypeEnum) : Bool :=
  decide t.codes.Nodup && t.variants.length == t.codes.length && t.rangeNames.length == t.ranges.length
    && t.codes.all (fun c => c < 2 ^ t.width)
    && t.ranges.all (fun r => r.1 ≤ r.2 && r.2 < 2 ^ t.width)
    && t.ranges.all (fun r => t.codes.all (fun c => c < r.1 || r.2 < c))
    && decide (t.ranges.Pairwise (fun r q => r.2 < q.1 ∨ q.2 < r.1))

/-- **every generated table is well-formed** (kernel-decided on the regenerated tables) -/
theorem generated_tables_wf : ∀ t ∈ Gen.typeenums, wfB t = true := by decide +kernel

/-- every generated table's named codes fit the declared width (so that the
Rust literals are the numbers the model uses) -/
theorem generated_codes_fit :
    ∀ t ∈ Gen.typeenums, ∀ c ∈ t.codes, c < 2 ^ t.width := by
  intro t ht c hc
  have h := generated_tables_wf t ht
  simp only [wfB, Bool.and_eq_true, List.all_eq_true, decide_eq_true_eq] at h
  exact h.1.1.1.2 c hc

/-- the (AFI, SAFI) rows are pairwise distinct and fit u16 / u8 -/
theorem generated_afisafi_wf :
    Gen.afisafiPairs.Nodup ∧ ∀ p ∈ Gen.afisafiPairs, p.1 < 65536 ∧ p.2 < 256 := by decide +kernel

/-- **no named arm is dead**: in a well-formed table the number written on the `i`-th named arm
decodes to exactly that variant (and, by `toInt_fromInt`, back to that number) -/
theorem named_reachable (t : TypeEnum) (h : wfB t = true) (i : Nat) (hi : i < t.codes.length) :
    fromInt t t.codes[i] = .named i := by
  simp only [wfB, Bool.and_eq_true, decide_eq_true_eq] at h
  rw [fromInt, findIdx_eq, findIdx?_getElem_of_nodup h.1.1.1.1.1.1 hi]

/-- **no range arm is dead or shadowed**: in a well-formed table every number inside the bounds of the
`j`-th range arm decodes to that range variant carrying the number -/
theorem range_reachable (t : TypeEnum) (h : wfB t = true) (j : Nat) (hj : j < t.ranges.length) (n : Nat)
    (hlo : t.ranges[j].1 ≤ n) (hhi : n ≤ t.ranges[j].2) : fromInt t n = .range j n := by
  simp only [wfB, Bool.and_eq_true, decide_eq_true_eq, List.all_eq_true, Bool.or_eq_true] at h
  obtain ⟨⟨_, hout⟩, hpw⟩ := h
  have hnone : findIdx t.codes n = none := by
    rw [findIdx_eq]
    refine List.findIdx?_eq_none_iff.mpr fun c hc => decide_eq_false fun hcn => ?_
    have := hout t.ranges[j] (List.getElem_mem hj) c hc
    omega
  rw [fromInt, hnone, findRange_pairwise hpw hj hlo hhi]

/-- the property's clauses (a)-(c) **for the tables of the current source**: every number maps to a
variant that maps back to it; every declared named arm and every number of every declared range is
reached (nothing is shadowed); a number that is on no arm is kept in the catch-all.  The first and
last conjunct are the generic theorems instantiated; the two in the middle rest on
`generated_tables_wf`, i.e. they are re-decided against the regenerated tables. -/
theorem generated_tables_lossless : ∀ t ∈ Gen.typeenums,
    (∀ n, toInt t (fromInt t n) = some n) ∧
    (∀ i (hi : i < t.codes.length), fromInt t t.codes[i] = .named i) ∧
    (∀ j (hj : j < t.ranges.length) n, t.ranges[j].1 ≤ n → n ≤ t.ranges[j].2 → fromInt t n = .range j n) ∧
    (∀ n v, fromInt t n = .unimpl v → v = n) := fun t ht =>
  ⟨toInt_fromInt t, named_reachable t (generated_tables_wf t ht), range_reachable t (generated_tables_wf t ht),
    unknown_preserved t⟩

/-- … and for the (AFI, SAFI) rows of the current source: every pair round-trips, every declared
row is reached by its own pair, an undeclared pair is kept in `Unsupported(afi, safi)` -/
theorem generated_afisafi_lossless :
    (∀ a s, afisafiTo Gen.afisafiPairs (afisafiFrom Gen.afisafiPairs a s) = some (a, s)) ∧
    (∀ i (hi : i < Gen.afisafiPairs.length),
      afisafiFrom Gen.afisafiPairs Gen.afisafiPairs[i].1 Gen.afisafiPairs[i].2 = .known i) ∧
    (∀ a s a' s', afisafiFrom Gen.afisafiPairs a s = .unsupported a' s' → (a', s') = (a, s)) := by
  refine ⟨afisafi_roundtrip _, ?_, ?_⟩
  · intro i hi
    rw [afisafiFrom, findPair_eq, findIdx?_getElem_of_nodup generated_afisafi_wf.1 hi]
  · intro a s a' s' h
    have := afisafi_roundtrip Gen.afisafiPairs a s
    rw [h] at this
    exact Option.some.inj this

def ecTable : TypeEnum := Gen.typeenums.getD Gen.errorCodeTable ⟨"", 0, [], [], [], []⟩

/-- decidable per-code condition on the *shapes* of the two match tables that
makes raw ∘ details the identity (for every subcode when the variant keeps
it, for subcode 0 otherwise) -/
def shapeCond (ec : TypeEnum) (da : List (Nat × Nat × Bool × Bool)) (ra : List (Nat × CodeSrc × CodeSrc))
    (code : Nat) : Bool :=
  match detailsShape ec da code with
  | none => false
  | some sh =>
    match findRaw ra sh.dv with
    | none => false
    | some (c, s) =>
      (evalSrc ec (if sh.keepsCode then some code else none) c == some code)
      && (if sh.keepsSub then s == .carried else s == .lit 0)

private theorem shape_lift (ec da ra) (code sub : Nat) (h : shapeCond ec da ra code = true)
    (hs : (∀ sh, detailsShape ec da code = some sh → sh.keepsSub = true) ∨ sub = 0) :
    (details ec da code sub).bind (detailsRaw ec ra) = some (code, sub) := by
  unfold shapeCond at h
  unfold details
  split at h
  · cases h
  · rename_i sh hsh
    split at h
    · cases h
    · rename_i c s hr
      simp only [Bool.and_eq_true, beq_iff_eq] at h
      obtain ⟨hc, hsub⟩ := h
      simp only [hsh, Option.map_some, Option.bind_some, detailsRaw, hr, hc]
      cases hk : sh.keepsSub with
      | true =>
        -- the variant stores the subcode and `raw` writes the stored one
        rw [hk, if_pos rfl] at hsub
        cases eq_of_beq hsub; rfl
      | false =>
        -- the variant has no field for it and `raw` writes 0: only subcode 0 comes back
        rw [hk, if_neg Bool.false_ne_true] at hsub
        rcases hs with hs | rfl
        · exact absurd (hs sh hsh) (by rw [hk]; exact Bool.false_ne_true)
        · cases eq_of_beq hsub; rfl

/-- The full statement of the property's last clause.  It is FALSE of the code
as it stands (finding K1), see `details_roundtrip_fails`. -/
def DetailsRoundtripStatement : Prop :=
  ∀ code sub : Nat, code < 256 → sub < 256 →
    (details ecTable Gen.detailsArms code sub).bind (detailsRaw ecTable Gen.rawArms)
      = some (code, sub)

/-- codes whose `Details` variant has no field for the subcode -/
def dropsSub (code : Nat) : Bool :=
  match detailsShape ecTable Gen.detailsArms code with
  | some sh => !sh.keepsSub
  | none => true

theorem generated_shapes_ok : ∀ code : Fin 256, shapeCond ecTable Gen.detailsArms Gen.rawArms code.val = true := by
  decide +kernel

/-- proved part: details re-encode to the code/subcode they were decoded from
whenever the code's variant keeps the subcode, or the subcode is 0. -/
theorem details_roundtrip_partial (code sub : Nat) (hc : code < 256)
    (h : dropsSub code = false ∨ sub = 0) :
    (details ecTable Gen.detailsArms code sub).bind (detailsRaw ecTable Gen.rawArms)
      = some (code, sub) := by
  apply shape_lift _ _ _ _ _ (generated_shapes_ok ⟨code, hc⟩)
  exact h.imp_left fun h sh hsh => by simpa [dropsSub, hsh] using h

/-- exactly which codes drop the subcode in the current source: 0 (Reserved) and 4 (Hold Timer Expired) -/
theorem dropsSub_iff : ∀ code : Fin 256, dropsSub code.val = true ↔ (code.val = 0 ∨ code.val = 4) := by
  decide +kernel

/-- K1 witness: NOTIFICATION (4,7) re-encodes as (4,0); the full statement is false of the model. -/
theorem details_roundtrip_fails : ¬ DetailsRoundtripStatement := by
  intro h
  have := h 4 7 (by decide) (by decide)
  revert this
  decide +kernel

example : fromInt (Gen.typeenums.getD 1 ⟨"", 0, [], [], [], []⟩) 2 = .named 1 := by decide +kernel
example : fromInt (Gen.typeenums.getD 10 ⟨"", 0, [], [], [], []⟩) 77 = .range 0 77 := by decide +kernel
example : dropsSub 6 = false ∧ dropsSub 4 = true := by decide +kernel

end Rc.Thm.C18
