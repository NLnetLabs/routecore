/-
Property C02 – no byte sequence can panic or hang UPDATE decoding or its
accessors; every iterator is bounded by the octets it runs over; an item-level
error is the last item; the all-or-nothing collection accessors agree with the
iterators.

The statements are about the model of Rc/Model/Update.lean (which mirrors the
code after the repairs F1, F2, F3: before them `parse_total`-style statements
were false of the code, see corpus/C02.ops).  Every slice, index, `unwrap`
and `expect` of the modelled Rust is an operation that can return `.panic`;
the proofs are where each of them is shown to be guarded.
-/
import Rc.Lemmas.Update
import Rc.Lemmas.IterProto

namespace Rc.Thm.C02
open Rc Rc.Nlri Rc.Attr Rc.Upd

/-! ### decoding is total -/

private theorem headerParse_noPanic (bs : Bytes) : headerParse bs ≠ .panic := by
  unfold headerParse
  repeat' split
  all_goals simp

private theorem attrsWalk_noPanic : ∀ (f : Nat) (bs : Bytes), attrsWalk f bs ≠ .panic := by
  intro f bs
  fun_induction attrsWalk f bs
  case case4 ih => exact ih
  all_goals simp

/-- **parse_total.** For every session configuration and every byte string,
`UpdateMessage::from_octets` returns a message or an error: it never panics. -/
theorem parse_total (cfg : Cfg) (bs : Bytes) : parseUpdate cfg bs ≠ .panic := by
  intro hp
  unfold parseUpdate at hp
  -- the `.err` and `.ok` arms go; a `.panic` arm is reached only by a panic of one of the parts
  repeat' split at hp
  any_goals cases hp
  · exact headerParse_noPanic bs ‹_›
  · exact convValidate_noPanic _ _ ‹_›
  · exact attrsWalk_noPanic _ _ ‹_›
  · exact mpScan_noPanic _ _ _ _ ‹_›
  · exact convValidate_noPanic _ _ ‹_›

/-! ### accessors are total -/

/-- The one panic-capable operation on the `to_owned()` path of an attribute
(path_attributes.rs:600 → `AsPath::new(..)?.to_hop_path()` → `PathSegments::
next_asns`, whose two `expect`s assume an `AsPath::check`ed octet string):
the hop reading of an AS_PATH (session's ASN width) / AS4_PATH (always four
octets) value.  `Rc.Attr.parseValue` / `toOwned` turn every non-`ok` of it
into `.err`, so `toOwned .. ≠ .panic` alone is true of ANY wire attribute by
the shape of that definition; THIS is the operation the clause is about
(`AsPath.hops true [2, 3, 0, 0, 0, 1] = .panic`: it does panic on an unchecked
value). Every other step of `parseValue` is a bounds-checked parser read
(`rd8/rd16/rd32/takeN/chunkO/dec32O`: `Option` / `.err`, no panic branch). -/
def ownedHops (four : Bool) : Wire → Outcome AsPath.HopPath
  | .typed _ code v => if code = 2 then AsPath.hops four v else if code = 17 then AsPath.hops true v else .ok []
  | _ => .ok []

/-- what "no accessor panics" means, accessor group by accessor group (the
groups are the ones the correspondence check observes) -/
structure NoPanics (m : Msg) : Prop where
  pcap : m.pcap ≠ .panic
  pathAttributes : ∀ x ∈ m.pathAttributes.1, x ≠ .panic ∧
    ∀ w, x = .ok w → ownedHops m.ppi.four w ≠ .panic ∧ toOwned m.ppi.four w ≠ .panic
  convWd : ∀ x ∈ m.convWd.1, x ≠ .panic
  convAnn : ∀ x ∈ m.convAnn.1, x ≠ .panic
  mpWd : m.mpWd ≠ .panic ∧ ∀ ty bs, m.mpWd = .ok (some (ty, bs)) → ∀ x ∈ (enumItems ty bs).1, x ≠ .panic
  mpAnn : m.mpAnn ≠ .panic ∧ ∀ ty bs, m.mpAnn = .ok (some (ty, bs)) → ∀ x ∈ (enumItems ty bs).1, x ≠ .panic
  withdrawals : m.withdrawals ≠ .panic ∧ ∀ r, m.withdrawals = .ok r → ∀ x ∈ r.1, x ≠ .panic
  announcements : m.announcements ≠ .panic ∧ ∀ r, m.announcements = .ok r → ∀ x ∈ r.1, x ≠ .panic
  wdVec : m.wdVec ≠ .panic
  annVec : m.annVec ≠ .panic
  typedWd : ∀ f ap, m.typedWd f ap ≠ .panic ∧ ∀ r, m.typedWd f ap = .ok (some r) → ∀ x ∈ r.1, x ≠ .panic
  typedAnn : ∀ f ap, m.typedAnn f ap ≠ .panic ∧ ∀ r, m.typedAnn f ap = .ok (some r) → ∀ x ∈ r.1, x ≠ .panic
  afiSafis : m.afiSafis ≠ .panic
  isEor : m.isEor ≠ .panic
  origin : m.origin ≠ .panic
  aspath : m.aspath ≠ .panic
  as4path : m.as4path ≠ .panic
  convNextHop : m.convNextHop ≠ .panic
  mpNextHop : m.mpNextHop ≠ .panic
  findNextHop : ∀ k, m.findNextHop k ≠ .panic
  med : m.med ≠ .panic
  localPref : m.localPref ≠ .panic
  aggregator : m.aggregator ≠ .panic
  communities : ∀ r, m.communities = some r → ∀ x ∈ r.1, x ≠ .panic
  extCommunities : ∀ r, m.extCommunities = some r → ∀ x ∈ r.1, x ≠ .panic
  ipv6ExtCommunities : ∀ r, m.ipv6ExtCommunities = some r → ∀ x ∈ r.1, x ≠ .panic
  largeCommunities : ∀ r, m.largeCommunities = some r → ∀ x ∈ r.1, x ≠ .panic
  allCommunities : m.allCommunities ≠ .panic

private theorem itemsOfOpt_noPanic (x : Option (NlriTy × Bytes)) : ∀ y ∈ (itemsOfOpt x).1, y ≠ .panic := by
  cases x with
  | none => simp [itemsOfOpt]
  | some p => exact (enumItems_spec p.1 p.2).2.2.2

/-- `withdrawals` / `announcements` (and below their `_vec` forms) over variables: `x` the MP accessor's
answer, `c` the conventional iterator -/
private theorem chained_noPanic {x : Outcome (Option (NlriTy × Bytes))} {c : List (Outcome AnyNlri) × Bool}
    {w : Outcome (List (Outcome AnyNlri) × Bool)}
    (hw : w = match x with
      | .ok x => .ok ((itemsOfOpt x).1 ++ c.1, (itemsOfOpt x).2 && c.2)
      | .err => .err
      | .panic => .panic)
    (hx : x ≠ .panic) (hc : ∀ y ∈ c.1, y ≠ .panic) :
    w ≠ .panic ∧ ∀ r, w = .ok r → ∀ y ∈ r.1, y ≠ .panic := by
  subst hw
  cases x with
  | panic => exact absurd rfl hx
  | err => simp
  | ok x =>
    simp only [ne_eq, reduceCtorEq, not_false_eq_true, Outcome.ok.injEq, true_and]
    rintro _ rfl
    exact List.forall_mem_append.mpr ⟨itemsOfOpt_noPanic x, hc⟩

private theorem vec_spec {x : Outcome (Option (NlriTy × Bytes))} {c : List (Outcome AnyNlri)}
    {vec : Outcome (List AnyNlri)}
    (hvec : vec = match x with
      | .ok x => collectResult (c ++ (itemsOfOpt x).1)
      | .err => .err
      | .panic => .panic)
    (hx : x ≠ .panic) (hc : ∀ y ∈ c, y ≠ .panic) :
    vec ≠ .panic ∧ (∀ v, vec = .ok v ↔ ∃ x', x = .ok x' ∧ c ++ (itemsOfOpt x').1 = v.map Outcome.ok) ∧
      (vec = .err ↔ x = .err ∨ ∃ x', x = .ok x' ∧ Outcome.err ∈ c ++ (itemsOfOpt x').1) := by
  subst hvec
  cases x with
  | panic => exact absurd rfl hx
  | err => simp
  | ok x =>
    obtain ⟨herr, hnp⟩ := collectResult_err _ (List.forall_mem_append.mpr ⟨hc, itemsOfOpt_noPanic x⟩)
    simp only [collectResult_ok, herr, reduceCtorEq, Outcome.ok.injEq, exists_eq_left', false_or]
    exact ⟨hnp, fun _ => trivial, trivial⟩

private theorem typed_spec {f : Fam} {ap : Bool} {x : Outcome (Option (List (Outcome AnyNlri) × Bool))}
    {n : Nat} (h : x ≠ .panic ∧ ∀ r, x = .ok (some r) → ∃ bs, r = famItems f ap bs ∧ bs.length ≤ n)
    {r : List (Outcome AnyNlri) × Bool} (hr : x = .ok (some r)) :
    (r.2 = true ∧ r.1.length ≤ n) ∧ ErrLast r.1 ∧ ∀ y ∈ r.1, y ≠ .panic := by
  obtain ⟨bs, rfl, hb⟩ := h.2 r hr
  obtain ⟨h1, h2, h3⟩ := famItems_spec f ap bs
  exact ⟨⟨h1, Nat.le_trans h2 hb⟩, h3⟩

private theorem okFlatten_ok {α : Type} {x : Outcome (Option α)} (h : x ≠ .panic) :
    ∃ o, okFlatten x = .ok o := by
  cases x with
  | ok o => exact ⟨o, rfl⟩
  | err => exact ⟨none, rfl⟩
  | panic => exact absurd rfl h

private theorem afiSafis_noPanic (m : Msg) : m.afiSafis ≠ .panic := by
  obtain ⟨w, hw⟩ := okFlatten_ok (mpWd_spec m).1
  obtain ⟨a, ha⟩ := okFlatten_ok (mpAnn_spec m).1
  simp [Msg.afiSafis, hw, ha]

private theorem hasMpNlri_noPanic (m : Msg) : m.hasMpNlri ≠ .panic := by
  unfold Msg.hasMpNlri
  cases hf : findUnchecked 14 m.attrs.length m.attrs with
  | panic => exact absurd hf (findUnchecked_spec _ _ _).1
  | err => simp
  | ok _ => simp

private theorem isEor_noPanic (m : Msg) : m.isEor ≠ .panic := by
  fun_cases Msg.isEor m
  case case5 hh => exact absurd hh (hasMpNlri_noPanic m)
  case case7 hw => exact absurd hw (mpWd_spec m).1
  all_goals simp

private theorem nhParse_noPanic (fam : Option Fam) (bs : Bytes) : nhParse fam bs ≠ .panic := by
  unfold nhParse
  split
  · simp
  · simp only
    repeat' split
    all_goals simp

private theorem mpNextHopTuple_noPanic (m : Msg) : m.mpNextHopTuple ≠ .panic := by
  unfold Msg.mpNextHopTuple
  rcases mpAttr_cases m 14 with h | h | ⟨k, r, h, _⟩
  · simp [h]
  · simp [h]
  · simp only [h]
    cases hn : nhParse (famOf k) r with
    | panic => exact absurd hn (nhParse_noPanic _ _)
    | err => simp
    | ok _ => simp

private theorem convNextHop_noPanic (m : Msg) : m.convNextHop ≠ .panic := by
  unfold Msg.convNextHop
  repeat' split
  all_goals simp

private theorem findNextHop_noPanic (m : Msg) (k : Nat × Nat) : m.findNextHop k ≠ .panic := by
  have h1 := mpNextHopTuple_noPanic m
  have hco : Msg.findNextHop.convOr m.convNextHop ≠ .panic := by
    have := convNextHop_noPanic m
    unfold Msg.findNextHop.convOr
    split <;> simp_all
  fun_cases Msg.findNextHop m k
  case case1 | case7 => exact absurd ‹_› h1
  case case3 | case4 => exact hco
  all_goals simp

/-- `PathSegments::next_asns`' `expect`s cannot fire on a value `AsPath::check` accepted -/
private theorem hops_checked_noPanic (four : Bool) (v : Bytes) (hp : pathValid four v = true) :
    AsPath.hops four v ≠ .panic := by
  obtain ⟨ss, _, _, _, hh, _⟩ := AsPath.wire_view four v (check_of_pathValid hp)
  simp [hh]

private theorem asPathOf_noPanic (four : Bool) (v : Bytes) : mapO some (asPathOf four v) ≠ .panic := by
  unfold asPathOf
  cases hc : AsPath.check four v with
  | ok u =>
    have := hops_checked_noPanic four v (by simp [pathValid, hc])
    cases hh : AsPath.hops four v <;> simp_all [mapO]
  | err => simp [mapO]
  | panic => simp [mapO]

private theorem ownedHops_noPanic {four : Bool} {w : Wire} (h : WireOk four (.ok w)) :
    ownedHops four w ≠ .panic := by
  cases w with
  | typed fl code v =>
    -- the hop reading is guarded by the `validate` (= `AsPath::check`) the iterator ran
    have hv : validate code four v = some true := h
    simp only [ownedHops]
    split
    · rename_i h2; subst h2
      exact hops_checked_noPanic _ _ (by simpa [validate] using hv)
    · split
      · rename_i _ h17; subst h17
        exact hops_checked_noPanic _ _ (by simpa [validate] using hv)
      · simp
  | unimplemented _ _ _ => simp [ownedHops]
  | invalid _ _ _ => simp [ownedHops]

private theorem toOwned_noPanic (four : Bool) (w : Wire) : toOwned four w ≠ .panic := by
  unfold toOwned
  split
  · split <;> simp
  · simp
  · simp

private theorem pathAttributes_noPanic (m : Msg) : ∀ x ∈ m.pathAttributes.1, x ≠ .panic ∧
    ∀ w, x = .ok w → ownedHops m.ppi.four w ≠ .panic ∧ toOwned m.ppi.four w ≠ .panic := by
  intro x hx
  have hok : WireOk m.ppi.four x := pa_collect_ok m.ppi.four _ _ x hx
  refine ⟨by rintro rfl; exact hok, ?_⟩
  rintro w rfl
  exact ⟨ownedHops_noPanic hok, toOwned_noPanic _ _⟩

private theorem comms_noPanic (m : Msg) (code k : Nat) (hk : 0 < k)
    (hv : ∀ four v, validate code four v = some (v.length % k == 0)) :
    ∀ r, m.comms code k = some r → ∀ x ∈ r.1, x ≠ .panic := by
  intro r hr
  obtain ⟨v, htv, rfl⟩ := comms_some hr
  have hmod : v.length % k = 0 := by simpa [hv] using typedValue_valid m code v htv
  exact collect_forall (commNext k) (I := fun s => s.length % k = 0) (fun _ _ _ hs h => (commNext_spec hk h).2 hs)
    _ v hmod

private theorem commPart_noPanic (x : Option (List (Outcome Bytes) × Bool)) (h : ∀ r, x = some r → ∀ y ∈ r.1, y ≠ .panic) :
    ∀ y ∈ commPart x, y ≠ .panic := by
  cases x with
  | none => simp [commPart]
  | some r => exact h r rfl

private theorem allCommunities_noPanic (m : Msg) (h : ∀ y ∈ m.allItems, y ≠ .panic) :
    m.allCommunities ≠ .panic := by
  have hz := (collectResult_err _ h).2
  unfold Msg.allCommunities
  generalize collectResult m.allItems = z at hz
  cases z with
  | ok l => cases l <;> simp
  | err => simp
  | panic => exact absurd rfl hz

/-- the sections of an accepted message lie inside the octets it keeps -/
private theorem accepted_body {cfg : Cfg} {bs : Bytes} {m : Msg} (h : parseUpdate cfg bs = .ok m) :
    2 + m.wd.length + 2 + m.attrs.length + m.ann.length ≤ m.body.length := by
  obtain ⟨hl, ty, body, wl, r2, r3, al, r4, r5, reach, unreach, r6, _, _, _, h1, h2, _, h3, h4, _, _, hle, h5, _,
    hb, _⟩ := parseUpdate_ok h
  have e1 := rd16_length h1
  obtain ⟨w1, rfl⟩ := takeN_length h2
  have e3 := rd16_length h3
  obtain ⟨a1, rfl⟩ := takeN_length h4
  obtain ⟨n1, rfl⟩ := takeN_length h5
  simp only [List.length_append] at e1 e3
  rw [hb, List.length_take]
  omega

/-- `pcap` is the one accessor that can panic on a `Msg` (a record whose sections overrun its body). -/
private theorem noPanics_of_pcap (m : Msg) (hpcap : m.pcap ≠ .panic) : NoPanics m := by
  have hc8 := comms_noPanic m 8 4 (by omega) fun _ _ => rfl
  have hc16 := comms_noPanic m 16 8 (by omega) fun _ _ => rfl
  have hc25 := comms_noPanic m 25 20 (by omega) fun _ _ => rfl
  have hc32 := comms_noPanic m 32 12 (by omega) fun _ _ => rfl
  have hall : ∀ y ∈ m.allItems, y ≠ .panic := by
    simp only [Msg.allItems, List.forall_mem_append]
    exact ⟨⟨⟨commPart_noPanic _ hc8, commPart_noPanic _ hc16⟩, commPart_noPanic _ hc25⟩, commPart_noPanic _ hc32⟩
  exact
    { pcap := hpcap
      pathAttributes := pathAttributes_noPanic m
      convWd := (famItems_spec _ _ _).2.2.2
      convAnn := (famItems_spec _ _ _).2.2.2
      mpWd := ⟨(mpWd_spec m).1, fun ty bs _ => (enumItems_spec ty bs).2.2.2⟩
      mpAnn := ⟨(mpAnn_spec m).1, fun ty bs _ => (enumItems_spec ty bs).2.2.2⟩
      withdrawals := chained_noPanic rfl (mpWd_spec m).1 (famItems_spec _ _ _).2.2.2
      announcements := chained_noPanic rfl (mpAnn_spec m).1 (famItems_spec _ _ _).2.2.2
      wdVec := (vec_spec rfl (mpWd_spec m).1 (famItems_spec _ _ _).2.2.2).1
      annVec := (vec_spec rfl (mpAnn_spec m).1 (famItems_spec _ _ _).2.2.2).1
      typedWd := fun f ap => ⟨(typedWd_spec m f ap).1, fun _ hr => (typed_spec (typedWd_spec m f ap) hr).2.2⟩
      typedAnn := fun f ap => ⟨(typedAnn_spec m f ap).1, fun _ hr => (typed_spec (typedAnn_spec m f ap) hr).2.2⟩
      afiSafis := afiSafis_noPanic m
      isEor := isEor_noPanic m
      origin := by
        unfold Msg.origin
        repeat' split
        all_goals simp
      aspath := by
        unfold Msg.aspath
        split
        · exact asPathOf_noPanic _ _
        · simp
      as4path := by
        unfold Msg.as4path
        split
        · exact asPathOf_noPanic _ _
        · simp
      convNextHop := convNextHop_noPanic m
      mpNextHop := mapO_ne_panic (mpNextHopTuple_noPanic m)
      findNextHop := findNextHop_noPanic m
      med := by
        unfold Msg.med u32Value
        repeat' split
        all_goals simp [mapO]
      localPref := by
        unfold Msg.localPref u32Value
        repeat' split
        all_goals simp [mapO]
      aggregator := by
        unfold Msg.aggregator aggrOf
        repeat' split
        all_goals simp
      communities := hc8
      extCommunities := hc16
      ipv6ExtCommunities := hc25
      largeCommunities := hc32
      allCommunities := allCommunities_noPanic m hall }

/-- **accessors_total.** On every accepted message each public accessor and
every item of each iterator is a value or an `Err`, never a panic. -/
theorem accessors_total (cfg : Cfg) (bs : Bytes) (m : Msg) (h : parseUpdate cfg bs = .ok m) : NoPanics m := by
  refine noPanics_of_pcap m ?_
  have := accepted_body h
  unfold Msg.pcap
  simp only
  split
  · simp
  · omega

/-! ### iterators are bounded and end -/

/-- **iter_bounded** (NLRI sections). Every NLRI iterator ends (the `true`
flag: no hang) after at most as many items as the section has octets; the
conventional sections and the MP attributes lie inside the message. -/
theorem iter_bounded_nlri (m : Msg) :
    (m.convWd.2 = true ∧ m.convWd.1.length ≤ m.wd.length) ∧
    (m.convAnn.2 = true ∧ m.convAnn.1.length ≤ m.ann.length) ∧
    (∀ ty bs, m.mpWd = .ok (some (ty, bs)) →
      (enumItems ty bs).2 = true ∧ (enumItems ty bs).1.length ≤ bs.length ∧ bs.length ≤ m.attrs.length) ∧
    (∀ ty bs, m.mpAnn = .ok (some (ty, bs)) →
      (enumItems ty bs).2 = true ∧ (enumItems ty bs).1.length ≤ bs.length ∧ bs.length ≤ m.attrs.length) ∧
    (∀ f ap r, m.typedWd f ap = .ok (some r) → r.2 = true ∧ r.1.length ≤ m.wd.length + m.attrs.length) ∧
    (∀ f ap r, m.typedAnn f ap = .ok (some r) → r.2 = true ∧ r.1.length ≤ m.ann.length + m.attrs.length) := by
  exact ⟨⟨(famItems_spec _ _ _).1, (famItems_spec _ _ _).2.1⟩, ⟨(famItems_spec _ _ _).1, (famItems_spec _ _ _).2.1⟩,
    fun ty bs hm => ⟨(enumItems_spec ty bs).1, (enumItems_spec ty bs).2.1, (mpWd_spec m).2 ty bs hm⟩,
    fun ty bs hm => ⟨(enumItems_spec ty bs).1, (enumItems_spec ty bs).2.1, (mpAnn_spec m).2 ty bs hm⟩,
    fun f ap _ hr => (typed_spec (typedWd_spec m f ap) hr).1,
    fun f ap _ hr => (typed_spec (typedAnn_spec m f ap) hr).1⟩

/-- **iter_bounded** (attribute and community iterators). -/
theorem iter_bounded_attrs (m : Msg) :
    (m.pathAttributes.2 = true ∧ m.pathAttributes.1.length ≤ m.attrs.length) ∧
    (∀ code k r, 0 < k → m.comms code k = some r → r.2 = true ∧
      ∃ v, m.typedValue code = some v ∧ r.1.length ≤ v.length) := by
  refine ⟨⟨collect_ended _ List.length (paNext_measure _) _ _ (by omega),
    (collect_bounded _ List.length (paNext_measure _) _ _).1⟩, ?_⟩
  intro code k r hk hr
  obtain ⟨v, hv, rfl⟩ := comms_some hr
  exact ⟨commItems_ended hk v, v, hv, commItems_length hk v⟩

/-- the bound used by the observers (octets + 1) is never the reason an
iterator stops: any larger bound gives the same items -/
theorem fuel_irrelevant {α : Type} (c : Codec α) (hp : Progress c) (bs : Bytes) (fuel : Nat)
    (h : bs.length ≤ fuel) : collect (nlriNext c) fuel bs = nlriItems c bs :=
  collect_fuel_enough _ List.length (nlriNext_measure hp) _ _ bs h (by omega)

/-! ### an item-level error is the last item -/

/-- **err_is_last.** In every NLRI iterator of the message (conventional, MP,
typed) an item that is not `Ok` is the last item the iterator yields. -/
theorem err_is_last (m : Msg) :
    ErrLast m.convWd.1 ∧ ErrLast m.convAnn.1 ∧
    (∀ ty bs, ErrLast (enumItems ty bs).1) ∧
    (∀ f ap r, m.typedWd f ap = .ok (some r) → ErrLast r.1) ∧
    (∀ f ap r, m.typedAnn f ap = .ok (some r) → ErrLast r.1) :=
  ⟨(famItems_spec _ _ _).2.2.1, (famItems_spec _ _ _).2.2.1, fun ty bs => (enumItems_spec ty bs).2.2.1,
    fun f ap _ hr => (typed_spec (typedWd_spec m f ap) hr).2.1,
    fun f ap _ hr => (typed_spec (typedAnn_spec m f ap) hr).2.1⟩

/-- `ErrLast` said with positions: whatever follows a non-`Ok` item is nothing -/
theorem errLast_spec {α : Type} : ∀ (l pre post : List (Outcome α)) (x : Outcome α),
    ErrLast l → l = pre ++ x :: post → isOkItem x = false → post = [] := by
  intro l pre
  induction pre generalizing l with
  | nil =>
    rintro post x hl rfl hx
    cases post with
    | nil => rfl
    | cons y t => simp [ErrLast, hx] at hl
  | cons p ps ih =>
    rintro post x hl rfl hx
    exact ih _ post x (errLast_tail hl) rfl hx

/-- the parse-time walk of the attribute section succeeded (what `parseUpdate` checked) -/
theorem attrs_no_err (cfg : Cfg) (bs : Bytes) (m : Msg) (h : parseUpdate cfg bs = .ok m) :
    attrsWalk m.attrs.length m.attrs = .ok () :=
  parseUpdate_ok_attrs h

/-- **attrs_all_ok.** The attribute iterator `path_attributes()` of an accepted
message yields no `Err` item at all (so "an item-level error is the last item"
holds of it trivially, although the iterator is not fused): the TLV structure
was walked at parse time, and where the walk finds a complete TLV the iterator
yields an `Ok` item and continues after it, whatever the ASN width of the
session. -/
theorem attrs_all_ok (cfg : Cfg) (bs : Bytes) (m : Msg) (h : parseUpdate cfg bs = .ok m) :
    ∀ x ∈ m.pathAttributes.1, ∃ w, x = .ok w :=
  pa_collect_all_ok m.ppi.four _ _ m.attrs (attrs_no_err cfg bs m h)

/-! ### the all-or-nothing accessors agree with the iterators -/

/-- **vec_agrees.** `withdrawals_vec()` is `Ok(v)` exactly when
`mp_withdrawals()` is `Ok` and the conventional items followed by the MP items
are exactly `v`, all `Ok`; it is `Err` exactly when `mp_withdrawals()` is `Err`
or some item is an `Err`. -/
theorem vec_agrees_withdrawals (m : Msg) :
    (∀ v, m.wdVec = .ok v ↔ ∃ x, m.mpWd = .ok x ∧ m.convWd.1 ++ (itemsOfOpt x).1 = v.map Outcome.ok) ∧
    (m.wdVec = .err ↔ m.mpWd = .err ∨ ∃ x, m.mpWd = .ok x ∧ Outcome.err ∈ m.convWd.1 ++ (itemsOfOpt x).1) :=
  (vec_spec rfl (mpWd_spec m).1 (famItems_spec _ _ _).2.2.2).2

/-- **vec_agrees** for `announcements_vec()`. -/
theorem vec_agrees_announcements (m : Msg) :
    (∀ v, m.annVec = .ok v ↔ ∃ x, m.mpAnn = .ok x ∧ m.convAnn.1 ++ (itemsOfOpt x).1 = v.map Outcome.ok) ∧
    (m.annVec = .err ↔ m.mpAnn = .err ∨ ∃ x, m.mpAnn = .ok x ∧ Outcome.err ∈ m.convAnn.1 ++ (itemsOfOpt x).1) :=
  (vec_spec rfl (mpAnn_spec m).1 (famItems_spec _ _ _).2.2.2).2

/-- the conventional sections of an accepted message hold no `Err` item: they
were validated at parse time with the same ADD-PATH setting the accessors use -/
theorem conv_all_ok (cfg : Cfg) (bs : Bytes) (m : Msg) (h : parseUpdate cfg bs = .ok m) :
    convValidate m.ppi.conv m.wd = .ok () ∧ convValidate m.ppi.conv m.ann = .ok () := by
  obtain ⟨_, _, _, _, _, _, _, _, _, _, _, _, _, _, _, _, _, hv1, _, _, _, _, _, _, hv2, _⟩ := parseUpdate_ok h
  rw [(parseUpdate_ok_ppi h).2]
  exact ⟨hv1, hv2⟩

/-- non-vacuity of the acceptance hypothesis: a 27-octet UPDATE announcing
10.0.0.0/8 ... (no attributes) is accepted in a four-octet session, and the
End-of-RIB marker in an ADD-PATH session -/
example : (parseUpdate ⟨true, []⟩
    (List.replicate 16 0xff ++ [0, 25, 2, 0, 0, 0, 0, 8, 10])).isOk = true := by decide
example : (parseUpdate ⟨false, [((1, 1), .both)]⟩
    (List.replicate 16 0xff ++ [0, 23, 2, 0, 0, 0, 0])).isOk = true := by decide
/-- the `ownedHops` conjunct of `NoPanics.pathAttributes` is not true by construction: on a
value that was not checked (segment of 3 ASNs announced, 4 octets present) the hop reading
panics, and `toOwned` hides that as `.err` -/
example : ownedHops true (.typed 0x40 2 [2, 3, 0, 0, 0, 1]) = .panic := by decide
example : Attr.toOwned true (.typed 0x40 2 [2, 3, 0, 0, 0, 1]) = .err := by decide
/-- and a message is rejected, not panicked on, when a length field lies -/
example : (parseUpdate ⟨true, []⟩ (List.replicate 16 0xff ++ [0, 25, 2, 0, 9, 0, 0, 8, 10])).isOk = false := by decide

/-! ### iteration of a returned `AsPath` is bounded by its octets -/

private theorem dec32_len : ∀ (bs : Bytes), 4 * (AsPath.dec32 bs).length ≤ bs.length
  | [] => by simp [AsPath.dec32]
  | [_] => by simp [AsPath.dec32]
  | [_, _] => by simp [AsPath.dec32]
  | [_, _, _] => by simp [AsPath.dec32]
  | _ :: _ :: _ :: _ :: r => by
    have := dec32_len r
    simp only [AsPath.dec32, List.length_cons]; omega

private theorem dec16_len : ∀ (bs : Bytes), 2 * (AsPath.dec16 bs).length ≤ bs.length
  | [] => by simp [AsPath.dec16]
  | [_] => by simp [AsPath.dec16]
  | _ :: _ :: r => by
    have := dec16_len r
    simp only [AsPath.dec16, List.length_cons]; omega

private theorem decAsns_len (four : Bool) (bs : Bytes) : 2 * (AsPath.decAsns four bs).length ≤ bs.length := by
  cases four
  · simpa [AsPath.decAsns] using dec16_len bs
  · have := dec32_len bs
    simp only [AsPath.decAsns, ↓reduceIte]; omega

private theorem segmentsF_bounds (four : Bool) : ∀ (f : Nat) (bs : Bytes) (ss : List AsPath.Seg),
    AsPath.segmentsF four f bs = .ok ss → 2 * ss.length + 2 * (ss.map fun sg => sg.asns.length).sum ≤ bs.length := by
  intro f bs
  fun_induction AsPath.segmentsF four f bs
  all_goals intro ss h; cases h
  case case7 v r ht ss' hr ih =>
    have := ih ss' hr
    obtain ⟨_, rfl⟩ := takeN_length ht
    have := decAsns_len four v
    simp only [List.length_cons, List.map_cons, List.sum_cons, List.length_append]
    omega
  all_goals simp

/-- **hops_bounded.** A bound on the COUNT of what the iterators of a RETURNED value
yield (the arithmetic the clause "every iterator terminates" rests on; termination
proper is not what this says: `AsPath.segmentsF` is defined by structural recursion
on the octets, so "the iterator ends" is built into the model – a `PathSegments::next`
that does not advance has no counterpart there and is caught by the harness' `pit`
group with its `b + 1` item bound and the watchdog only): whatever octets an
`AsPath` holds and whatever its ASN width, when `segments()` / `hops()` come to an end without a panic they have yielded at
most `len / 2` segments whose `asns()` yield at most `len / 2` AS numbers in all,
and at most `len / 2` hops (`len` = the number of value octets): no AS path
value makes these iterators run longer than its own length.  (That they do not
panic on a value `aspath()` / `as4path()` / `to_owned()` returns is
`accessors_total`.)  The harness drives the three iterators of every returned
path to their ends and compares the three counts with the model's (group `pit`). -/
theorem hops_bounded (four : Bool) (v : Bytes) :
    (∀ ss, AsPath.segments four v = .ok ss →
      2 * ss.length + 2 * (ss.map fun sg => sg.asns.length).sum ≤ v.length) ∧
    (∀ h, AsPath.hops four v = .ok h → 2 * h.length ≤ v.length) := by
  refine ⟨fun ss hs => segmentsF_bounds four _ v ss hs, fun h hh => ?_⟩
  unfold AsPath.hops at hh
  split at hh
  · cases hh
    have := segmentsF_bounds four _ v _ ‹_›
    have := (AsPath.hopsOfSegs_len ‹_›).1
    rw [List.length_flatMap] at this
    omega
  · cases hh
  · cases hh

/-- ... in particular for the paths the accessors of an accepted message return:
`aspath()` (session width) and `as4path()` (four octets) -/
theorem returned_path_bounded (m : Msg) (v : Bytes) (h : AsPath.HopPath) :
    (m.aspath = .ok (some (v, h)) → 2 * h.length ≤ v.length) ∧
    (m.as4path = .ok (some (v, h)) → 2 * h.length ≤ v.length) := by
  have key : ∀ four (w : Bytes), mapO some (asPathOf four w) = .ok (some (v, h)) → 2 * h.length ≤ v.length := by
    intro four w hw
    unfold asPathOf at hw
    split at hw
    · split at hw
      · cases hw; exact (hops_bounded four v).2 _ ‹_›
      · cases hw
      · cases hw
    · cases hw
  constructor
  · intro hm
    unfold Msg.aspath at hm
    split at hm
    · exact key _ _ hm
    · cases hm
  · intro hm
    unfold Msg.as4path at hm
    split at hm
    · exact key _ _ hm
    · cases hm

/-- non-vacuity: 300 empty AS_SET segments in 600 octets are 300 hops – the bound is reached -/
example : (match AsPath.hops true ((List.replicate 300 [1, 0]).flatten) with
    | .ok h => some h.length | _ => none) = some 300 := by decide +kernel

/-! ### how an iterator is consumed does not matter

The iterators of the model are `next` functions observed through `collect` (= `for` / `collect()` /
`next()` until `None`).  For a type that implements `next` only, every other way Rust code can consume it
is a default method, a function of the `next()` sequence (Rc/Lemmas/IterProto.lean).  The theorems below
instantiate that for the community, attribute and NLRI iterators: every consumption order the default
methods allow observes the `collect` sequence - in particular none of them reaches a state `next` alone
does not reach, so `accessors_total` / `iter_bounded_*` / `err_is_last` cover them.  What a Rust type OVERRIDES (`size_hint`, `nth`, `count` ..)
is outside the model: "the overrides agree with the defaults, and do not panic" is checked on the real
code by the harness (harness/src/common.rs `iter_protocol`, reply group `proto`), on every accepted
message of the stream. -/

/-- what `collect` gathers is the `next()` sequence of Rc/Lemmas/IterProto.lean -/
private theorem ends_of_collect {σ ι : Type} (next : σ → Option (ι × σ)) :
    ∀ (f : Nat) (s : σ), (collect next f s).2 = true → IterProto.Ends next s (collect next f s).1 := by
  intro f s
  fun_induction collect next f s with
  | case1 s => exact fun h => .nil (by simpa [Option.isNone_iff_eq_none] using h)
  | case2 f s hn => exact fun _ => .nil hn
  | case3 f s i s' hn ih => exact fun h => .cons hn (ih h)

/-- **community_iterator_protocol.** For each of the four community iterators (`code`/`k` = 8/4, 16/8,
25/20, 32/12; any `k > 0`) of any message: `count()`, `last()`, `collect()`, every `fold`, `nth(j)`,
`skip(j)`, `step_by(j + 1)` and every one of these after `by_ref().take(j)` observe exactly the items
`communities()` .. `large_communities()` yield through `next()` (`r.1`, the list of `iter_bounded_attrs`). -/
theorem community_iterator_protocol (m : Msg) (code k : Nat) (hk : 0 < k)
    (r : List (Outcome Bytes) × Bool) (h : m.comms code k = some r) :
    ∃ v, m.typedValue code = some v ∧ IterProto.Protocol (commNext k) v r.1 := by
  obtain ⟨v, hv, rfl⟩ := comms_some h
  exact ⟨v, hv, IterProto.protocol_of_ends (ends_of_collect _ _ _ (commItems_ended hk v))⟩

/-- **attribute_iterator_protocol.** The same for `path_attributes()` of any message. -/
theorem attribute_iterator_protocol (m : Msg) :
    IterProto.Protocol (paNext m.ppi.four) m.attrs m.pathAttributes.1 :=
  IterProto.protocol_of_ends (ends_of_collect _ _ _ (iter_bounded_attrs m).1.1)

/-- **nlri_iterator_protocol.** The same for `NlriIter` / `NlriEnumIter` of every family whose parser
makes progress (all 26: `Progress`, the hypothesis of `fuel_irrelevant`), over any octets. -/
theorem nlri_iterator_protocol {α : Type} (c : Codec α) (hp : Progress c) (bs : Bytes) :
    IterProto.Protocol (nlriNext c) bs (nlriItems c bs).1 :=
  IterProto.protocol_of_ends (ends_of_collect _ _ _ (nlriItems_ended hp bs))

/-- three standard communities: `nth(3)` is `None`, `skip(1)` yields the last two, `step_by(2)` the
first and the third (the consumptions that panicked under the seeded constant-time `nth`) -/
example : IterProto.Protocol (commNext 4) [0, 1, 0, 2, 0, 3, 0, 4, 0, 5, 0, 6]
    [.ok [0, 1, 0, 2], .ok [0, 3, 0, 4], .ok [0, 5, 0, 6]] :=
  IterProto.protocol_of_ends ⟨4, by decide⟩
example : (IterProto.nth (commNext 4) 3 [0, 1, 0, 2, 0, 3, 0, 4, 0, 5, 0, 6]).1 = none := by decide
example : (IterProto.nth (commNext 4) 4 [0, 1, 0, 2, 0, 3, 0, 4, 0, 5, 0, 6]).1 = none := by decide

end Rc.Thm.C02
