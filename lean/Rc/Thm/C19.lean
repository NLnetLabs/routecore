/-
C19 – Communities keep their raw value through every representation.

Property theorems only; the supporting lemmas (numeral printers/parsers, the
generated `wellknown!` table's side conditions, byte/slice arithmetic) are in
Rc/Lemmas/Community.lean.  Every statement is for ALL raw values of the
flavour's length – in particular `std_text` covers all 2^32 standard
communities by proof, not by enumeration.  The table facts the proofs need
(`tableRoundTrip_ok`, `keysOK_ok`, `namesParse_ok`) are decided by the kernel
on the table regenerated from the current source on every run.
-/
import Rc.Model.Community
import Rc.Lemmas.Community

namespace Rc.Thm.C19
open Rc Rc.Community Rc.Lemmas.Community

/-- raw round trip: a 4/8/12/20-byte value becomes a community (of the flavour its length selects)
whose raw bytes are that value -/
theorem raw_id (raw : Bytes) (h : raw.length = 4 ∨ raw.length = 8 ∨ raw.length = 12 ∨ raw.length = 20) :
    (Comm.ofRaw raw).map Comm.raw = some raw := by
  unfold Comm.ofRaw
  rcases h with h | h | h | h <;> simp [h, Comm.raw]

/-- the flavour is the length -/
theorem raw_flavour (raw : Bytes) :
    (raw.length = 4 → Comm.ofRaw raw = some (.standard raw)) ∧ (raw.length = 8 → Comm.ofRaw raw = some (.extended raw)) ∧
    (raw.length = 12 → Comm.ofRaw raw = some (.large raw)) ∧ (raw.length = 20 → Comm.ofRaw raw = some (.ipv6Extended raw)) := by
  unfold Comm.ofRaw
  refine ⟨?_, ?_, ?_, ?_⟩ <;> intro h <;> simp [h]

/-- every standard community is in exactly one of well-known / reserved / private -/
theorem partition (raw : Bytes) :
    (isWellknown raw = true ∧ isReserved raw = false ∧ isPrivate raw = false) ∨
    (isWellknown raw = false ∧ isReserved raw = true ∧ isPrivate raw = false) ∨
    (isWellknown raw = false ∧ isReserved raw = false ∧ isPrivate raw = true) := by
  -- private is "neither" by definition; the others differ on octet 0
  have hp : isPrivate raw = !(isWellknown raw || isReserved raw) := rfl
  cases hw : isWellknown raw <;> cases hr : isReserved raw <;> simp [hp, hw, hr]
  simp only [isWellknown, isReserved, Bool.and_eq_true, beq_iff_eq] at hw hr
  exact absurd (hw.1.symm.trans hr.1) (by decide)

/-- `asn()` / `tag()` decompose a non-well-known value exactly (and are `None` on well-known ones) -/
theorem asn_tag_decompose (raw : Bytes) (h : raw.length = 4) :
    (isWellknown raw = true → stdAsn raw = none ∧ stdTag raw = none) ∧
    (isWellknown raw = false → ∃ a t, stdAsn raw = some a ∧ stdTag raw = some t ∧ a < 65536 ∧ t < 65536 ∧
      a * 65536 + t = stdU32 raw ∧ beBytes 2 a ++ beBytes 2 t = raw) := by
  match raw, h with
  | [b0, b1, b2, b3], _ =>
    have h0 := b0.toNat_lt; have h1 := b1.toNat_lt; have h2 := b2.toNat_lt; have h3 := b3.toNat_lt
    constructor
    · intro hw; simp [stdAsn, stdTag, hw]
    · intro hw
      refine ⟨b0.toNat * 256 + b1.toNat, b2.toNat * 256 + b3.toNat, ?_, ?_, by omega, by omega, ?_, ?_⟩
      · simp [stdAsn, hw, byteAt]
      · simp [stdTag, hw, byteAt]
      · simp [stdU32, beVal]; omega
      · simp [beBytes2]

/-! ## text forms, per flavour -/

private theorem std_text_form (raw : Bytes) (h : raw.length = 4) :
    ∃ t, displayStd raw = .ok t ∧ parseStd t = .ok raw := by
  have hlt : stdU32 raw < 4294967296 := beVal_lt (k := 4) (by simp [h])
  have hbe : beBytes 4 (stdU32 raw) = raw := by
    rw [stdU32, List.take_of_length_le (by omega)]
    exact beBytes_beVal 4 raw h
  unfold displayStd toWellknown Wk.tryFromU32
  by_cases hw : stdU32 raw / 65536 % 65536 = 0xFFFF
  · rw [if_neg (fun hne => hne hw)]
    exact ⟨_, rfl, by rw [parseStd_wk, show 0xFFFF0000 + stdU32 raw % 65536 % 65536 = stdU32 raw by omega, hbe]⟩
  · obtain ⟨a, t, ha, ht, la, lt, _, hraw⟩ :=
      (asn_tag_decompose raw h).2 (Bool.eq_false_iff.mpr fun hwk => hw ((isWellknown_iff h).mp hwk))
    rw [if_pos hw]
    simp only [ha, ht]
    refine ⟨_, rfl, ?_⟩
    simp only [List.append_assoc, List.cons_append, List.nil_append]
    rw [← hraw]
    exact parseStd_asn_tag la lt

/-- EVERY standard community (well-known names, unrecognised well-known values printed as
`0xFFFFnnnn`, and `ASn:tag` for everything else, the reserved range included): `Display` does not
panic and `StandardCommunity::from_str` of the text is the community. -/
theorem std_text (raw : Bytes) (h : raw.length = 4) : (displayStd raw >>= parseStd) = .ok raw := by
  obtain ⟨t, hd, hp⟩ := std_text_form raw h
  rw [hd]; exact hp

example : (displayStd [0xFF, 0xFF, 0xFF, 0x01] >>= parseStd) = .ok [0xFF, 0xFF, 0xFF, 0x01] := std_text _ rfl

/-- every large community: `g:l1:l2` parses back -/
theorem large_text (raw : Bytes) (h : raw.length = 12) : parseLarge (displayLarge raw) = .ok raw := by
  have l1 := slice_length raw 0 4 (by omega)
  have l2 := slice_length raw 4 8 (by omega)
  have l3 := slice_length raw 8 12 (by omega)
  rw [displayLarge_eq]
  unfold lrgGlobal lrgLocal1 lrgLocal2
  rw [parseLarge_dec (beVal_lt l1) (beVal_lt l2) (beVal_lt l3), beBytes_beVal 4 _ l1, beBytes_beVal 4 _ l2,
    beBytes_beVal 4 _ l3, List.append_assoc, slice3 raw 4 8 12 (by omega) (by omega) h]

/-- every extended community of the statement's class – everything that prints as `0x…`, and route
target / route origin with a two-octet AS (type 0x00), an IPv4 address (0x01) or a four-octet AS
above 65535 (0x02).  Excluded are exactly: non-transitive opaque route target `[0x43, 0x02]` (prints
`rt:` + unpadded hex) and four-octet-AS rt/ro whose AS is ≤ 65535 (prints like the two-octet form). -/
theorem ext_text (raw : Bytes) (h : raw.length = 8)
    (hc : ¬ ((byteAt raw 0).toNat = 0x43 ∧ (byteAt raw 1).toNat = 2) ∧
      ¬ ((byteAt raw 0).toNat = 2 ∧ ((byteAt raw 1).toNat = 2 ∨ (byteAt raw 1).toNat = 3) ∧ beVal (slice raw 2 6) ≤ 65535)) :
    (displayExt raw >>= parseExt) = .ok raw := by
  obtain ⟨t, hd, hp, _⟩ := ext_text_form raw h hc
  rw [hd]; exact hp

example : (displayExt [0x80, 5, 1, 2, 3, 4, 5, 6] >>= parseExt) = .ok [0x80, 5, 1, 2, 3, 4, 5, 6] :=
  ext_text _ rfl (by decide)
example : (displayExt [2, 3, 0, 1, 0, 0, 0, 7] >>= parseExt) = .ok [2, 3, 0, 1, 0, 0, 0, 7] :=
  ext_text _ rfl (by decide)

/-- the two exclusions are necessary: these texts parse, but not to the community that printed them -/
theorem ext_text_excluded_as4_small :
    (displayExt [2, 2, 0, 0, 0, 5, 0, 7] >>= parseExt) = .ok [0, 2, 0, 5, 0, 0, 0, 7] := by decide +kernel
theorem ext_text_excluded_opaque_rt :
    (displayExt [0x43, 2, 1, 2, 3, 4, 5, 6] >>= parseExt) = .err := by decide +kernel

/-- every IPv6 extended community that prints in hexadecimal (all but type 0x00 / sub-type 0x02,
whose `rt:<ipv6>:<n>` text the code itself does not parse) -/
theorem v6_text (raw : Bytes) (h : raw.length = 20)
    (hc : ¬ ((byteAt raw 0).toNat = 0x00 ∧ (byteAt raw 1).toNat = 0x02)) :
    (displayV6 raw).map parseV6 = some (.ok raw) := by
  have hp := parseV6_hex (slice_length raw 0 8 (by omega)) (slice_length raw 8 16 (by omega))
    (slice_length raw 16 20 (by omega))
  rw [slice3 raw 8 16 20 (by omega) (by omega) h] at hp
  unfold displayV6
  rw [if_neg hc, List.take_of_length_le (by omega)]
  exact congrArg some hp

example : (displayV6 (List.replicate 12 0 ++ [0xFF, 0xFF, 0, 1, 0, 0, 0, 1])).map parseV6 =
    some (.ok (List.replicate 12 0 ++ [0xFF, 0xFF, 0, 1, 0, 0, 0, 1])) := v6_text _ rfl (by decide)

/-! ## text forms through `Community::from_str` (Standard, then Large, then Extended, then IPv6 Extended) -/

/-- standard communities come back as `Community::Standard` -/
theorem enum_text_std (raw : Bytes) (h : raw.length = 4) :
    (displayStd raw >>= parseAny) = .ok (.standard raw) := by
  obtain ⟨t, hd, hp⟩ := std_text_form raw h
  rw [hd, Outcome.bind_ok, parseAny, hp]

/-- large communities: the standard parser rejects `a:b:c`, the large one returns the value -/
theorem enum_text_large (raw : Bytes) (h : raw.length = 12) :
    parseAny (displayLarge raw) = .ok (.large raw) := by
  unfold parseAny
  rw [large_text raw h, displayLarge_eq, parseStd_large]

/-- extended communities of the class: neither the standard nor the large parser accepts the text
(this is what fix F21b made true for hex texts with leading zero bytes) -/
theorem enum_text_ext (raw : Bytes) (h : raw.length = 8)
    (hc : ¬ ((byteAt raw 0).toNat = 0x43 ∧ (byteAt raw 1).toNat = 2) ∧
      ¬ ((byteAt raw 0).toNat = 2 ∧ ((byteAt raw 1).toNat = 2 ∨ (byteAt raw 1).toNat = 3) ∧ beVal (slice raw 2 6) ≤ 65535)) :
    (displayExt raw >>= parseAny) = .ok (.extended raw) := by
  obtain ⟨t, hd, hp, hf⟩ := ext_text_form raw h hc
  rw [hd]
  simp only [Outcome.bind_ok]
  unfold parseAny
  rcases hf with ⟨c, tail, hc', rfl⟩ | ⟨H, rfl, hcol, hlen⟩
  · have hne : c ≠ ':' := by rcases hc' with rfl | rfl <;> decide
    rw [parseStd_tagged hne, parseLarge_tagged hne, hp]
  · rw [parseStd_0x hcol, hexArm_long (by omega), parseLarge_hex hcol, hp]

example : (displayExt [0, 0, 0, 0, 0xFF, 0xFF, 0, 1] >>= parseAny) = .ok (.extended [0, 0, 0, 0, 0xFF, 0xFF, 0, 1]) :=
  enum_text_ext _ rfl (by decide)

/-- IPv6 extended communities that print in hexadecimal: 40 digits are too long for the standard
and the extended parser, and the large parser rejects `x` -/
theorem enum_text_v6 (raw : Bytes) (h : raw.length = 20)
    (hc : ¬ ((byteAt raw 0).toNat = 0x00 ∧ (byteAt raw 1).toNat = 0x02)) :
    (displayV6 raw).map parseAny = some (.ok (.ipv6Extended raw)) := by
  have hv := v6_text raw h hc
  unfold displayV6 at hv ⊢
  rw [if_neg hc] at hv ⊢
  simp only [Option.map_some, Option.some.injEq, List.cons_append, List.nil_append] at hv ⊢
  have hcol : ':' ∉ (raw.take 20).flatMap hex2L := colon_not_mem_flatMap_hex2 isHex2_L _
  have hlen : ((raw.take 20).flatMap hex2L).length = 40 := by
    rw [length_flatMap_hex2 isHex2_L, List.length_take]; omega
  unfold parseAny
  rw [parseStd_0x hcol, hexArm_long (by omega), parseLarge_hex hcol, parseExt_0x hcol,
    hexArm_long (by omega), hv]

/-! ## well-known names -/

/-- every name, alias and variant identifier of the `wellknown!` table parses to a well-known
community with that row's value (table regenerated from source; decided by the kernel) -/
theorem wk_names_parse (row : WkRow) (hrow : row ∈ wkRows) (nm : Text) (hnm : nm ∈ row.names ++ [row.var]) :
    ∃ w, Wk.parse nm = some w ∧ parseStd nm = .ok (beBytes 4 row.value) := by
  have hk := List.all_eq_true.mp (List.all_eq_true.mp namesParse_ok row hrow) nm hnm
  cases hp : Wk.parse nm with
  | none => simp [hp] at hk
  | some w =>
    rw [hp] at hk
    exact ⟨w, rfl, by simp only [parseStd, hp, beq_iff_eq.mp hk]⟩

/-- names are matched case-insensitively: a text and its lower-case form parse alike -/
theorem wk_parse_case_insensitive (s : Text) : Wk.parse (lower s) = Wk.parse s := by
  unfold Wk.parse; rw [lower_idem]

/-- `Display` never panics on a community built from raw bytes (the `unwrap`s in it are guarded) -/
theorem display_no_panic (raw : Bytes) : displayExt raw ≠ .panic ∧ (raw.length = 4 → displayStd raw ≠ .panic) := by
  refine ⟨displayExt_no_panic raw, fun h hp => ?_⟩
  obtain ⟨_, hd, _⟩ := std_text_form raw h
  rw [hp] at hd
  cases hd

/-- type and sub-type octet carried by what `types()` reports -/
def typeCode : ExtType → Nat
  | .transitiveTwoOctetSpecific => 0x00 | .transitiveIp4Specific => 0x01
  | .transitiveFourOctetSpecific => 0x02 | .transitiveOpaque => 0x03
  | .nonTransitiveTwoOctetSpecific => 0x40 | .nonTransitiveIp4Specific => 0x41
  | .nonTransitiveFourOctetSpecific => 0x42 | .nonTransitiveOpaque => 0x43
  | .otherType t => t
def subCode : ExtSub → Nat
  | .routeTarget => 2 | .routeOrigin => 3 | .otherSubType s => s
def namedTransitive : ExtType → Option Bool
  | .transitiveTwoOctetSpecific | .transitiveIp4Specific | .transitiveFourOctetSpecific | .transitiveOpaque => some true
  | .nonTransitiveTwoOctetSpecific | .nonTransitiveIp4Specific | .nonTransitiveFourOctetSpecific
  | .nonTransitiveOpaque => some false
  | .otherType _ => none

private theorem trans_bit : ∀ n, n < 256 → (n / 64 % 2 == 0) = (n &&& 0x40 == 0) := by decide +kernel

private theorem named_types : ∀ t ∈ [0x00, 0x01, 0x02, 0x03, 0x40, 0x41, 0x42, 0x43],
    typeCode (extTypeOf t) = t ∧ extTypeOf t ≠ .otherType t ∧
    namedTransitive (extTypeOf t) = some (t / 64 % 2 == 0) := by decide

private theorem subCode_extSubOf (t s : Nat) : subCode (extSubOf t s) = s := by
  unfold extSubOf
  split
  · next h => exact h.1.symm
  · split
    · next h => exact h.1.symm
    · rfl

/-- type, sub-type and transitivity follow the first two octets: the reported type carries octet 0,
the reported sub-type carries octet 1 (this is what fix F21a made true in the catch-all arm),
`OtherType` is used only for unnamed type octets, `is_transitive` is bit 0x40 of octet 0 and agrees
with the name of every named type. -/
theorem ext_types_spec (raw : Bytes) :
    typeCode (extTypes raw).1 = (byteAt raw 0).toNat ∧
    subCode (extTypes raw).2 = (byteAt raw 1).toNat ∧
    (∀ t, (extTypes raw).1 = .otherType t → t ∉ [0x00, 0x01, 0x02, 0x03, 0x40, 0x41, 0x42, 0x43]) ∧
    extIsTransitive raw = ((byteAt raw 0).toNat &&& 0x40 == 0) ∧
    (∀ tr, namedTransitive (extTypes raw).1 = some tr → tr = extIsTransitive raw) := by
  have hbit := trans_bit _ (byteAt raw 0).toNat_lt
  rw [extTypes_fst, extTypes_snd]
  by_cases hn : (byteAt raw 0).toNat ∈ [0x00, 0x01, 0x02, 0x03, 0x40, 0x41, 0x42, 0x43]
  · obtain ⟨hcode, hnamed, htr⟩ := named_types _ hn
    refine ⟨hcode, subCode_extSubOf _ _, fun t ht => ?_, hbit, fun tr h => ?_⟩
    · rw [ht] at hcode
      exact absurd (hcode ▸ ht) hnamed
    · rw [htr] at h
      exact (Option.some.inj h).symm
  · rw [extTypeOf_other hn]
    exact ⟨rfl, subCode_extSubOf _ _, fun t ht => ExtType.otherType.inj ht ▸ hn, hbit, fun _ h => nomatch h⟩

/-- nothing beyond the first two octets influences `types()` -/
theorem ext_types_two_octets (r1 r2 : Bytes) (h0 : byteAt r1 0 = byteAt r2 0) (h1 : byteAt r1 1 = byteAt r2 1) :
    extTypes r1 = extTypes r2 := by
  unfold extTypes; rw [h0, h1]

end Rc.Thm.C19
