/-
C13 – AS path conversions preserve hops and emit valid wire form; 2/4-octet
paths equate.

Property theorems only; the model is Rc/Model/AsPath.lean (src/bgp/aspath.rs as
coded), helper lemmas are in Rc/Lemmas/AsPath.lean.  Everything is for hop
paths / byte strings of every length: the 255 and 510 boundaries are instances.

Two decidable predicates on hop paths:

* `WfHopsG h` – **every hop path the public API can build, minus K2**:
  `Hop::Asn(a)` with `a < 2^32`; `Hop::Segment`s of any type 1..4 in either
  width whose ASNs fit their width, **with at most 255 ASNs**. That covers
  `Segment::new_set / new_confed_sequence / new_confed_set`, segments cut out of
  a checked wire path of either width (`AsPath::segments()` + `octets_into`,
  `to_hop_path`), and a non-empty AS_SEQUENCE put into the hop path as ONE
  `Hop::Segment` (`From<Vec<Segment>> for HopPath`, `append(Hop::Segment(..))`).
  The only API-buildable hop paths outside it hold a `Segment::new_*` segment of
  more than 255 ASNs: known finding K2, witnessed by `compose_total_fails`.
  The valid-wire-form, two-octet-failure and no-panic clauses are proved under
  `WfHopsG`.
* `WfHops h` – the hop paths of the property's quantifier ("over ASNs, AS_SETs
  and confederation segments"): as above but an AS_SEQUENCE-typed segment hop
  is empty (what `to_hop_path` leaves of an empty AS_SEQUENCE). For these the
  hops read back are the hop path itself (`hops_compose`); for a `WfHopsG` path
  they are its *flat* hop sequence `flat b h`, in which an AS_SEQUENCE segment
  hop stands for its ASNs (`hops_compose_flat`; `flat` is idempotent and keeps
  the path-selection count: `flat_normal_form`, `hopCountSel_flat_eq`).
-/
import Rc.Lemmas.AsPath

namespace Rc.Thm.C13
open Rc Rc.AsPath

/-- *"conversion to wire format yields a valid AS_PATH (segment counts fit one
octet, sequences longer than 255 are split)"*: `to_as_path` succeeds, the bytes
pass `AsPath::check`, every segment read back has a type 1..4 and at most 255
ASNs, and the segments carry exactly the AS numbers of the hop path, in order. -/
theorem compose_valid (h : HopPath) (wf : WfHopsG h = true) :
    ∃ (w : Bytes) (ss : List Seg), compose true h = .ok w ∧ check true w = .ok () ∧
      segments true w = .ok ss ∧ (∀ s ∈ ss, s.asns.length ≤ 255 ∧ 1 ≤ s.ty ∧ s.ty ≤ 4) ∧
      ss.flatMap (·.asns) = asnsOf h := by
  obtain ⟨w, ss, a, b, c, d, e, _⟩ := compose_readG h wf
  exact ⟨w, ss, a, b, c, d, e⟩

example : WfHops [.asn 1, .seg ⟨1, true, [2, 3]⟩, .asn 70000, .seg ⟨3, true, []⟩] = true := by decide
example : WfHopsG [.seg ⟨2, true, [1, 2]⟩, .asn 7, .seg ⟨1, false, [65535]⟩] = true := by decide

/-- *"... whose hop sequence is the original"*, for the hop paths of the
quantifier (`WfHops`): reading the emitted path back with `hops()` (or
`AsPath::new` + `to_hop_path`) gives the hop path, each segment hop now stored
four-octet wide. -/
theorem hops_compose (h : HopPath) (wf : WfHops h = true) :
    ∃ w : Bytes, compose true h = .ok w ∧ hops true w = .ok (h.map (Hop.norm true)) ∧
      toHopPath true w = .ok (h.map (Hop.norm true)) := by
  obtain ⟨w, _, a, b, _, _, _, f⟩ := compose_readG h (wfHopsG_of_wfHops h wf)
  rw [flat_of_wfHops true h wf] at f
  exact ⟨w, a, f, by simp [toHopPath, b, f]⟩

/-- the same for *every* API-buildable hop path (`WfHopsG`), where an
AS_SEQUENCE-typed segment hop may hold ASNs: the hops read back are the flat hop
sequence of the original (such a segment hop stands for its ASNs). For the hop
paths of the quantifier the flat sequence is the path itself (`flat_of_wfHops`). -/
theorem hops_compose_flat (h : HopPath) (wf : WfHopsG h = true) :
    ∃ w : Bytes, compose true h = .ok w ∧ check true w = .ok () ∧
      hops true w = .ok (flat true h) := by
  obtain ⟨w, _, a, b, _, _, _, f⟩ := compose_readG h wf
  exact ⟨w, a, b, f⟩

example : WfHopsG [.asn 1, .seg ⟨2, true, [7, 8]⟩, .seg ⟨2, false, []⟩] = true := by decide

/-- the flat hop sequence is a normal form: flattening is idempotent, the result
is a hop path of the quantifier (`WfHops`, four-octet segment hops), it converts
to a wire path with the *same hops*, and a hop path is its own flat sequence
exactly when it holds no non-empty AS_SEQUENCE segment hop and only four-octet
segment hops. -/
theorem flat_normal_form (h : HopPath) (wf : WfHopsG h = true) :
    flat true (flat true h) = flat true h ∧
      WfHops (flat true h) = true ∧ AllFour (flat true h) = true ∧
      (∃ w w' : Bytes, compose true h = .ok w ∧ compose true (flat true h) = .ok w' ∧
        hops true w = .ok (flat true h) ∧ hops true w' = .ok (flat true h)) ∧
      (flat true h = h ↔ (WfHops h = true ∧ AllFour h = true)) := by
  obtain ⟨f1, f2⟩ := wfHops_flat h wf
  obtain ⟨w, a, _, c⟩ := hops_compose_flat h wf
  obtain ⟨w', a', _, c'⟩ := hops_compose_flat (flat true h) (wfHopsG_of_wfHops _ f1)
  rw [flat_idem] at c'
  exact ⟨flat_idem true h, f1, f2, ⟨w, w', a, a', c, c'⟩, flat_eq_self_iff h wf⟩

/-- for hop paths built with `Segment::new_set / new_confed_*` the hops read
back are *identical* to the original. -/
theorem hops_compose_exact (h : HopPath) (wf : WfHops h = true) (h4 : AllFour h = true) :
    ∃ w : Bytes, compose true h = .ok w ∧ hops true w = .ok h := by
  obtain ⟨w, a, b, _⟩ := hops_compose h wf
  exact ⟨w, a, by rw [b, map_norm_allFour h h4]⟩

example : AllFour [.asn 1, .seg ⟨1, true, [2, 3]⟩] = true := by decide

/-- *"converting a valid wire path to hops and back preserves its hop
sequence"*, for both widths: the hop path of a checked wire path is well
formed, `to_as_path` succeeds on it, the result is a checked four-octet path
and its hops are the original hops (segment hops four-octet wide). -/
theorem wire_roundtrip (four : Bool) (w : Bytes) (hc : check four w = .ok ()) :
    ∃ (h : HopPath) (w' : Bytes), toHopPath four w = .ok h ∧ WfHops h = true ∧
      compose true h = .ok w' ∧ check true w' = .ok () ∧
      hops true w' = .ok (h.map (Hop.norm true)) := by
  obtain ⟨ss, hss, _, _, _, hh⟩ := wire_view four w hc
  have wf := wfHops_hopsOfSegs four ss hss
  obtain ⟨w', a, b, f⟩ := hops_compose_flat _ (wfHopsG_of_wfHops _ wf)
  exact ⟨hopsOfSegs ss, w', hh, wf, a, b, flat_of_wfHops true _ wf ▸ f⟩

/-- for a four-octet wire path the hops read back are identical. -/
theorem wire_roundtrip_four (w : Bytes) (hc : check true w = .ok ()) :
    ∃ (h : HopPath) (w' : Bytes), toHopPath true w = .ok h ∧ compose true h = .ok w' ∧
      hops true w' = .ok h := by
  obtain ⟨ss, hss, _, _, _, hh⟩ := wire_view true w hc
  have wf := wfHops_hopsOfSegs true ss hss
  have h4 := allFour_hopsOfSegs ss (fun s hs => (hss s hs).2)
  obtain ⟨w', a, b⟩ := hops_compose_exact (hopsOfSegs ss) wf h4
  exact ⟨hopsOfSegs ss, w', hh, a, b⟩

/-- any well-formed hops `l` put in front of the hop path of a checked wire path -/
private theorem compose_in_front (four : Bool) (w : Bytes) (hc : check four w = .ok ()) (l : HopPath)
    (wl : WfHops l = true) :
    ∃ (h : HopPath) (w' : Bytes), hops four w = .ok h ∧ compose true (l ++ h) = .ok w' ∧
      check true w' = .ok () ∧ hops true w' = .ok ((l ++ h).map (Hop.norm true)) := by
  obtain ⟨ss, hss, _, _, hh, _⟩ := wire_view four w hc
  have wf : WfHops (l ++ hopsOfSegs ss) = true := by
    rw [WfHops, List.all_append, Bool.and_eq_true]
    exact ⟨wl, wfHops_hopsOfSegs four ss hss⟩
  obtain ⟨w', c1, c2, c6⟩ := hops_compose_flat _ (wfHopsG_of_wfHops _ wf)
  exact ⟨hopsOfSegs ss, w', hh, c1, c2, flat_of_wfHops true _ wf ▸ c6⟩

/-- *"prepending n copies of an AS yields exactly those n hops followed by the
original ones"*, for every n and both widths of the original path. -/
theorem prepend_n (four : Bool) (w : Bytes) (a n : Nat) (hc : check four w = .ok ())
    (ha : a < 4294967296) :
    ∃ (h : HopPath) (w' : Bytes), hops four w = .ok h ∧ prepend four w a n = .ok w' ∧
      check true w' = .ok () ∧
      hops true w' = .ok (List.replicate n (Hop.asn a) ++ h.map (Hop.norm true)) := by
  obtain ⟨h, w', hh, c1, c2, c3⟩ :=
    compose_in_front four w hc (List.replicate n (Hop.asn a)) (by simp [WfHops, Hop.wf, ha])
  refine ⟨h, w', hh, ?_, c2, ?_⟩
  · simp [prepend, hh, c1]
  · rw [c3]; simp [Hop.norm]

/-- `==` on two checked paths (any widths) decides equality of their segment
lists as (type, ASNs) – the width of the encoding is immaterial. -/
theorem pathEq_spec (f1 f2 : Bool) (b1 b2 : Bytes) (h1 : check f1 b1 = .ok ())
    (h2 : check f2 b2 = .ok ()) :
    ∃ s1 s2, segments f1 b1 = .ok s1 ∧ segments f2 b2 = .ok s2 ∧
      pathEq f1 b1 f2 b2 = .ok (decide (s1.map Seg.sem = s2.map Seg.sem)) := by
  obtain ⟨s1, _, _, g1, _⟩ := wire_view f1 b1 h1
  obtain ⟨s2, _, _, g2, _⟩ := wire_view f2 b2 h2
  exact ⟨s1, s2, g1, g2, pathEq_of_segments g1 g2⟩

/-- *"A 2-octet path and the 4-octet path with the same segments compare equal
and hash equal"*: for every list of segments that has a two-octet form. -/
theorem eq16_32 (ss : List Seg) (hw : ∀ s ∈ ss, s.wireOk false = true) :
    pathEq false (encSegs false ss) true (encSegs true ss) = .ok true ∧
      pathEq true (encSegs true ss) false (encSegs false ss) = .ok true ∧
      ∃ k, hashKey false (encSegs false ss) = .ok k ∧ hashKey true (encSegs true ss) = .ok k := by
  have hw4 : ∀ s ∈ ss, s.wireOk true = true := fun s hs => Seg.wireOk_wide (hw s hs)
  have s16 := segments_enc false ss hw
  have s32 := segments_enc true ss hw4
  have hsem : (ss.map (Seg.setFour false)).map Seg.sem = (ss.map (Seg.setFour true)).map Seg.sem := by
    simp [Function.comp_def]
  exact ⟨by rw [pathEq_of_segments s16 s32, decide_eq_true hsem],
    by rw [pathEq_of_segments s32 s16, decide_eq_true hsem.symm],
    _, hashKey_eq (check_enc false ss hw) s16, by rw [hashKey_eq (check_enc true ss hw4) s32, hsem]⟩

example : (⟨2, false, [1, 65535]⟩ : Seg).wireOk false = true := by decide

/-- `Eq`/`Hash` consistency for all checked paths of any widths: paths that
compare equal feed the hasher the same sequence of writes. -/
theorem eq_implies_hash_eq (f1 f2 : Bool) (b1 b2 : Bytes) (h1 : check f1 b1 = .ok ())
    (h2 : check f2 b2 = .ok ()) (he : pathEq f1 b1 f2 b2 = .ok true) :
    ∃ k, hashKey f1 b1 = .ok k ∧ hashKey f2 b2 = .ok k := by
  obtain ⟨s1, _, _, g1, _⟩ := wire_view f1 b1 h1
  obtain ⟨s2, _, _, g2, _⟩ := wire_view f2 b2 h2
  rw [pathEq_of_segments g1 g2] at he
  exact ⟨_, hashKey_eq h1 g1, by rw [hashKey_eq h2 g2, of_decide_eq_true (Outcome.ok.inj he)]⟩

/-- the same one level up, on hop paths (derived `PartialEq`/`Hash` of `HopPath`
over the hand-written ones of `Hop` and `Segment`): hop paths that compare equal
– segment hops may be stored in different widths – feed the hasher the same
sequence of writes. (Segment hops of at most 255 ASNs: beyond that
`Segment::hash` panics in `asn_count`, K2.) -/
theorem hopPath_eq_implies_hash_eq (h k : HopPath) (he : hopPathEq h k = true)
    (hh : h.all Hop.lenOk = true) (hk : k.all Hop.lenOk = true) :
    ∃ key, hopPathHashKey h = .ok key ∧ hopPathHashKey k = .ok key := by
  obtain ⟨hl, key, a, b⟩ := hopPathEq_hops h k he hh hk
  exact ⟨HW.len k.length :: key, by simp [hopPathHashKey, a, hl], by simp [hopPathHashKey, b]⟩

/-- a hop path and the same hop path with its segment hops re-stored in another
width compare equal (`Hop::eq` → `Segment::eq` is width-blind). -/
theorem hopPath_eq_width (b : Bool) (h : HopPath) : hopPathEq (h.map (Hop.norm b)) h = true :=
  hopPathEq_norm b h

/-- *"conversion to 2-octet form fails exactly when some AS number exceeds
65535"*. -/
theorem to16_fails_iff (h : HopPath) (wf : WfHopsG h = true) :
    compose false h = .err ↔ ∃ a ∈ asnsOf h, a > 65535 := by
  obtain ⟨ss, _, c2, _⟩ := compose_specG h wf
  have small : (∃ a ∈ asnsOf h, a > 65535) ↔ ¬ allSmall (asnsOf h) = true := by
    simp only [allSmall, List.all_eq_true, decide_eq_true_eq, Classical.not_forall, Nat.not_le,
      gt_iff_lt, exists_prop]
  rw [c2, small]
  split <;> simp [*]

/-- when no AS number exceeds 65535 the two-octet conversion succeeds, yields a
checked two-octet path with the original (flat) hops, and that path *compares
equal to and hashes like* the four-octet conversion of the same hop path. -/
theorem to16_ok (h : HopPath) (wf : WfHopsG h = true) (hs : allSmall (asnsOf h) = true) :
    ∃ (w16 w32 : Bytes), compose false h = .ok w16 ∧ compose true h = .ok w32 ∧
      check false w16 = .ok () ∧ hops false w16 = .ok (flat false h) ∧
      pathEq false w16 true w32 = .ok true ∧
      (∃ k, hashKey false w16 = .ok k ∧ hashKey true w32 = .ok k) := by
  obtain ⟨ss, c1, c2, _, c4, c5, _⟩ := compose_specG h wf
  have c4 := c4 hs
  obtain ⟨e1, _, e3⟩ := eq16_32 ss c4
  refine ⟨encSegs false ss, encSegs true ss, by simp [c2, hs], c1, check_enc false ss c4, ?_, e1, e3⟩
  simp [hops, segments_enc false ss c4, c5 false]

/-- the sequence AS numbers one hop stands for: a `Hop::Asn` is one, an
AS_SEQUENCE held as one `Hop::Segment` is as many as it contains -/
def seqAsnCount : Hop → Nat
  | .asn _ => 1
  | .seg s => if s.ty = 2 then s.asns.length else 0

def isAsSet : Hop → Bool
  | .asn _ => false
  | .seg s => s.ty == 1

/-- *"The path-selection hop count equals the number of sequence AS numbers
plus the number of AS_SETs, ignoring confederation segments"* – for EVERY hop
path, no hypothesis (the code as repaired by F26: an AS_SEQUENCE held as one
segment hop counts for each of its ASNs). -/
theorem hopCountSel_spec (h : HopPath) :
    hopCountSel h = (h.map seqAsnCount).sum + (h.filter isAsSet).length := by
  rw [hopCountSel_eq]
  induction h with
  | nil => rfl
  | cons x r ih =>
    simp only [List.map_cons, List.sum_cons, List.filter_cons, ih]
    cases x with
    | asn n => simp [selOf, seqAsnCount, isAsSet]; omega
    | seg s =>
      by_cases h1 : s.ty = 1
      · simp [selOf, segSel, seqAsnCount, isAsSet, h1]; omega
      · by_cases h2 : s.ty = 2
        · simp [selOf, segSel, seqAsnCount, isAsSet, h2]; omega
        · simp [selOf, segSel, seqAsnCount, isAsSet, h1, h2]

/-- the same count read off the wire: for every checked wire path (either
width), the path-selection hop count of its hop path is the number of ASNs in
its AS_SEQUENCE segments plus the number of its AS_SET segments; confederation
segments contribute nothing. -/
theorem hopCountSel_wire (four : Bool) (w : Bytes) (hc : check four w = .ok ()) :
    ∃ (ss : List Seg) (h : HopPath), segments four w = .ok ss ∧ toHopPath four w = .ok h ∧
      hopCountSel h = (ss.map segSel).sum := by
  obtain ⟨ss, _, _, hseg, _, hh⟩ := wire_view four w hc
  exact ⟨ss, hopsOfSegs ss, hseg, hh, hopCountSel_hopsOfSegs ss⟩

/-- ... and it does not depend on how the hop path holds its AS_SEQUENCEs: a
hop path and its flat hop sequence (what is read back after a trip over the
wire) have the same count. -/
theorem hopCountSel_flat_eq (b : Bool) (h : HopPath) : hopCountSel (flat b h) = hopCountSel h := by
  rw [hopCountSel_eq, hopCountSel_eq]
  refine sum_map_flatMap (Hop.flat b) selOf selOf (fun x => ?_) h
  cases x with
  | asn n => rfl
  | seg s => exact sum_selOf_hopsOfSeg (s.setFour b)

example : hopCountSel [.seg ⟨2, true, [10, 20]⟩, .asn 7, .seg ⟨1, true, [1, 2, 3]⟩, .seg ⟨3, true, [9]⟩] = 4 := by
  decide

/-- the full statement one would like: `to_as_path` never panics on a hop path
whose segments were made by `Segment::new_set / new_confed_*` from `u32` ASNs. -/
def ComposeTotalStatement : Prop :=
  ∀ (ty : Nat) (as : List Nat), (ty = 1 ∨ ty = 3 ∨ ty = 4) → (∀ a ∈ as, a < 4294967296) →
    compose true [Hop.seg ⟨ty, true, as⟩] ≠ .panic

/-- K2, for every such segment: a segment hop with more than 255 ASNs panics
both conversions (`Segment::asn_count`'s checked `u8`). -/
theorem compose_long_segment_panics (wide : Bool) (s : Seg) (hl : 255 < s.asns.length) :
    compose wide [Hop.seg s] = .panic := by
  have : ¬ s.asns.length ≤ 255 := by omega
  simp [compose, composeLoop, spanAsns, emitRun, Seg.compose, u8Expect, this]

/-- K2: an AS_SET of 256 ASNs panics `to_as_path`. -/
theorem compose_total_fails : ¬ ComposeTotalStatement := by
  intro h
  exact h 1 (List.replicate 256 0) (Or.inl rfl)
    (by intro a ha; have := (List.mem_replicate.mp ha).2; omega)
    (compose_long_segment_panics true _
      (by show 255 < (List.replicate 256 0).length; rw [List.length_replicate]; omega))

/-- ... and with exactly that exclusion (`WfHopsG`: at most 255 ASNs per segment
hop) neither conversion panics, for every API-buildable hop path. -/
theorem compose_total_partial (h : HopPath) (wf : WfHopsG h = true) :
    compose true h ≠ .panic ∧ compose false h ≠ .panic := by
  obtain ⟨ss, c1, c2, _⟩ := compose_specG h wf
  rw [c1, c2]
  refine ⟨by simp, ?_⟩
  split <;> simp

end Rc.Thm.C13
