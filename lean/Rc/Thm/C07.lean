/-
C07 – Re-encoding a received UPDATE preserves its attributes and NLRI.

Property theorems only.  Model: Rc/Model/Reenc.lean (the owned
`Unimplemented` / `Invalid` arms of `PathAttribute::compose` / `compose_len`
after the repairs F7 and F8, the three re-encoding routes, the NLRI re-add after
the repair of K7), on top of Rc/Model/Attr.lean (C04) and Rc/Model/Nlri.lean
(C05); the builder with re-added NLRI (`NlBuilder` ... `readdPdu`) on top of the
UPDATE decoder model of C01 / C02 (Rc/Model/Update.lean).  Lemmas:
Rc/Lemmas/Reenc.lean, Rc/Lemmas/Readd.lean.  The first part is for a four-octet
session; a later section treats two-octet sessions (`reencode_two_octet_partial`,
`two_octet_fails` = known finding K9, `two_octet_widened_*`).  ADD-PATH does not
touch the attributes; the NLRI clause is `reencode_nlri` (one NLRI octet string, C05
codecs) and, on the PDU the builder returns, `reencode_whole_message` /
`readd_preserves_nlri` / `readd_prefix_until_error` / `readd_total` (last section).

"Accepted" enters as `decAll true n sec = .ok ds`: the attribute section parses
(that is what `UpdateMessage::parse` checks of it, besides the MP length rules).
-/
import Rc.Lemmas.Reenc
import Rc.Lemmas.Nlri
import Rc.Gen.AttrFlags
import Rc.Gen.Constants
import Rc.Lemmas.Readd

namespace Rc.Thm.C07
open Rc Rc.AsPath Rc.Attr Rc.Reenc

/-- **model_constants_agree**: `Rc.Reenc.MAX_PDU`, the size above which the model of route 3
(`UpdateBuilder::from_update_message` + `into_message`) answers `PduTooLarge`, is `const MAX_PDU` of
update_builder.rs as the source has it now (`Rc/Gen/Constants.lean`, regenerated by the pre step
`tools/gen_codepoints.py --constants`; the same constant `Rc.Builder.MAX_PDU` is tied to in `Rc.Thm.C06`) -/
theorem model_constants_agree : Rc.Reenc.MAX_PDU = Rc.Gen.maxPdu := by decide

/-- **generated_flags_agree**: the canonical flags the re-encoder writes for a typed or an
`Invalid` attribute (`Rc.Attr.canonicalFlags`, read by `flags_rule` / `reencode_attrs`) ARE the
(type code, FLAGS) column of the `path_attributes!` invocation as the source has it now
(`Rc/Gen/AttrFlags.lean`, regenerated by the pre step), and the two bits `rawFlags` sets are the
source's PARTIAL and EXTENDED_LEN constants -/
theorem generated_flags_agree :
    (∀ c, c < 256 → canonicalFlags c = Rc.Gen.attrFlagsOf c) ∧
    Rc.Gen.flagPartial = 0x20 ∧ Rc.Gen.flagExtendedLen = 0x10 ∧
    (∀ f, f < 256 → rawFlags f 256 = f ||| Rc.Gen.flagPartial ||| Rc.Gen.flagExtendedLen) := by
  refine ⟨by decide +kernel, by decide, by decide, ?_⟩
  intro f _; rfl

/-! ## the independent reading of an attribute section -/

/-- flags, code, value of every attribute: the header walk alone, no type
knowledge (`none` = the octets are not a sequence of complete attributes) -/
def splitAll : Nat → Bytes → Option (List (UInt8 × UInt8 × Bytes))
  | 0, bs => if bs.isEmpty then some [] else none
  | f + 1, bs =>
    if bs.isEmpty then some [] else
      match splitAttr bs with
      | some (fl, tc, v, r) =>
        match splitAll f r with
        | some l => some ((fl, tc, v) :: l)
        | none => none
      | none => none

/-- attribute by attribute: the walk finds what `WireOk` prescribes -/
def WireAll : List Decoded → List (UInt8 × UInt8 × Bytes) → Prop
  | [], [] => True
  | d :: ds, w :: ws => WireOk d w.1 w.2.1 w.2.2 ∧ WireAll ds ws
  | _, _ => False

private theorem decAll_nil (g : Nat) : decAll true g [] = .ok [] := by cases g <;> rfl
private theorem splitAll_nil (g : Nat) : splitAll g [] = some [] := by cases g <;> rfl

private theorem splitAll_ind {P : Nat → Bytes → List (UInt8 × UInt8 × Bytes) → Prop} (nil : ∀ f, P f [] [])
    (cons : ∀ f bs fl tc v r l, splitAttr bs = some (fl, tc, v, r) → P f r l → P (f + 1) bs ((fl, tc, v) :: l))
    (f : Nat) (bs : Bytes) (ws : List (UInt8 × UInt8 × Bytes)) (h : splitAll f bs = some ws) : P f bs ws := by
  fun_induction splitAll f bs generalizing ws with
  | case1 bs he => cases h; rw [List.isEmpty_iff.mp he]; exact nil 0
  | case3 f bs he => cases h; rw [List.isEmpty_iff.mp he]; exact nil _
  | case4 f bs _ fl tc v r hs l hr ih => cases h; exact cons f bs fl tc v r l hs (ih l hr)
  | _ => cases h

/-- everything `reencode_one` says about one owned attribute -/
private def Good (d : Decoded) : Prop :=
  ∃ e, encOwned d = .ok e ∧ lenOwned d = .ok e.length ∧ 3 ≤ e.length ∧
    ∀ r', decAttr true (e ++ r') = .ok (.ok (renorm d), r') ∧
      ∃ fl tc v, splitAttr (e ++ r') = some (fl, tc, v, r') ∧ WireOk d fl tc v

/-- every attribute of a section that parses converts to an owned attribute
(`to_owned` cannot fail in a four-octet session) that re-encodes well -/
private theorem owned_good : ∀ f bs ds, decAll true f bs = .ok ds → (∀ d, Outcome.ok d ∈ ds → FitsD d) →
    ∃ owned, allOk ds = .ok owned ∧ ds = owned.map .ok ∧ ∀ d ∈ owned, Good d := by
  refine decAll_ind ?_ ?_
  · exact fun _ _ => ⟨[], rfl, rfl, by simp⟩
  · intro f bs od r l hd _ ih hfit
    obtain ⟨d, rfl, hone⟩ := reencode_one hd
    obtain ⟨owned, i1, i2, i3⟩ := ih (fun x hx => hfit x (by simp [hx]))
    exact ⟨d :: owned, by simp [allOk, i1], by simp [i2], List.forall_mem_cons.mpr ⟨hone (hfit d (by simp)), i3⟩⟩

/-- composing any list of such attributes and decoding the result -/
private theorem enc_list_spec : ∀ (m : List Decoded), (∀ d ∈ m, Good d) →
    ∃ out, encList m = .ok out ∧ lenList m = .ok out.length ∧
      ∀ g, out.length ≤ g → decAll true g out = .ok (m.map fun d => .ok (renorm d)) ∧
        ∃ ws, splitAll g out = some ws ∧ WireAll m ws
  | [], _ => ⟨[], rfl, rfl, fun g _ => ⟨decAll_nil g, [], splitAll_nil g, trivial⟩⟩
  | d :: owned, hgood => by
    obtain ⟨e, e1, e2, e3, e4⟩ := hgood d (by simp)
    obtain ⟨out, i2, i3, i4⟩ := enc_list_spec owned (fun x hx => hgood x (by simp [hx]))
    refine ⟨e ++ out, by simp [encList, e1, i2], by simp [lenList, e2, i3], fun g hg => ?_⟩
    have hl : (e ++ out).length = e.length + out.length := List.length_append
    match g, hg with
    | 0, hg => omega
    | g + 1, hg =>
      have hne : (e ++ out).isEmpty = false := by
        cases e with
        | nil => cases e3
        | cons _ _ => rfl
      obtain ⟨hd, fl', tc', v', hsp, hw⟩ := e4 out
      obtain ⟨j1, ws, hws, hwa⟩ := i4 g (by omega)
      refine ⟨?_, (fl', tc', v') :: ws, ?_, hw, hwa⟩
      · unfold decAll
        simp only [hne, Bool.false_eq_true, if_false, hd, j1, List.map_cons]
      · unfold splitAll
        simp only [hne, Bool.false_eq_true, if_false, hsp, hws]

/-! ## re-encoding the attributes -/

/-- *"converting its path attributes to the owned representation and composing
them again – directly – succeeds and yields bytes that decode to the same
attributes: the same type codes and values, the canonical flags for recognised
types, and for unrecognised types the received optional and transitive flags
plus the partial bit"*.

For every attribute section that parses (any number of attributes of any kind,
any flags, any order, repeated or not): every `to_owned()` succeeds, composing
the owned attributes succeeds, and decoding the octets written gives the same
owned attributes again, one for one, in order (`renorm` only replaces the flags
octet an `Unimplemented` attribute carries by the one that was written).  An
independent header walk over the octets written finds for each attribute
(`WireOk`): its type code; for a typed attribute the octets `compose_value`
writes (the received value octets for 18 of the 20 kinds, `typed_value_kept`;
the same hops for the two AS path kinds, C13) and the canonical flags of the
type plus EXTENDED_LEN exactly above 255 octets; for an `Unimplemented` or
`Invalid` attribute the received value octets and the flags octet `rawFlags`
(`flags_rule`).  `compose_len` summed is the number of octets written.

`hfit`: the AS paths re-compose into at most 65535 octets; `paths_fit` shows
this for every section of at most 43690 octets, whence `reencode_attrs`. -/
theorem reencode_attrs_of_fit (sec : Bytes) (ds : List (Outcome Decoded))
    (hacc : decAll true sec.length sec = .ok ds) (hfit : ∀ d, Outcome.ok d ∈ ds → FitsD d) :
    ∃ owned out, ownedList sec = .ok owned ∧ direct sec = .ok out ∧ lenList owned = .ok out.length ∧
      decAll true out.length out = .ok (owned.map fun d => .ok (renorm d)) ∧
      ∃ ws, splitAll out.length out = some ws ∧ WireAll owned ws := by
  obtain ⟨owned, i1, _, hgood⟩ := owned_good _ _ _ hacc hfit
  obtain ⟨out, i2, i3, i4⟩ := enc_list_spec owned hgood
  exact ⟨owned, out, by simp [ownedList, hacc, i1], by simp [direct, ownedList, hacc, i1, i2], i3, i4 _ (Nat.le_refl _)⟩

/-- the flags octet written for an attribute the library does not recognise
(`f` = the flags received) or recognises as malformed (`f` = the canonical flags
of its type): optional and transitive bits as in `f`, the partial bit set,
EXTENDED_LEN set exactly when the value is longer than 255 octets, the four
unused low bits as in `f`. -/
theorem flags_rule (f n : Nat) (hf : f < 256) :
    rawFlags f n / 128 % 2 = f / 128 % 2 ∧ rawFlags f n / 64 % 2 = f / 64 % 2 ∧
      rawFlags f n / 32 % 2 = 1 ∧ rawFlags f n / 16 % 2 = (if n > 255 then 1 else 0) ∧
      rawFlags f n % 16 = f % 16 :=
  (rawFlags_bits f n hf).2

/-- *"the same ... values"* for the 18 typed kinds that are not AS paths: the
value octets composed are the value octets received. (For AS_PATH / AS4_PATH
the hops are the same, `Rc.Thm.C04.roundtrip` / C13; adjacent AS_SEQUENCE
segments may be merged.) -/
theorem typed_value_kept (c : Nat) (v : Bytes) (hv : validate c true v = some true) (h2 : c ≠ 2) (h17 : c ≠ 17) :
    ∃ a, parseValue c true v = .ok a ∧ a.code = c ∧ composeValue a = .ok v := by
  obtain ⟨a, h1, _, h3, h4, _⟩ := typed_spec c v hv
  exact ⟨a, h1, h3, h4 ⟨h2, h17⟩⟩

/-! ## attributes not recognised, or recognised as malformed -/

/-- *"Attributes the library does not recognise, or recognises as malformed,
keep their value bytes unchanged whatever their length or length encoding on
input"*: for every flags octet (so for either length encoding), every type code
and every value of 0..65535 octets that fits the encoding: if the attribute is
not a well-formed one of a recognised type, it becomes an `Unimplemented` or
`Invalid` owned attribute whose re-encoding, read back by the header walk
alone, has the same type code and exactly the same value octets. -/
theorem raw_preserved (fl tc : UInt8) (v r r' : Bytes) (hfit : Rc.Thm.C04.rawFits fl v = true)
    (hnt : validate tc.toNat true v ≠ some true) :
    ∃ d e fl', decAttr true (Rc.Thm.C04.rawAttr fl tc v ++ r) = .ok (.ok d, r) ∧ (∀ a, d ≠ .typed a) ∧
      encOwned d = .ok e ∧ splitAttr (e ++ r') = some (fl', tc, v, r') := by
  have hs := Rc.Thm.C04.splitAttr_raw fl tc v r hfit
  obtain ⟨od, hd⟩ : ∃ od, decAttr true (Rc.Thm.C04.rawAttr fl tc v ++ r) = .ok (od, r) := by
    simp only [decAttr, parseWire, hs]
    cases validate tc.toNat true v with
    | none => exact ⟨_, rfl⟩
    | some b => cases b <;> exact ⟨_, rfl⟩
  obtain ⟨fl0, tc0, v0, hs0, hcase⟩ := decAttr_cases hd
  rw [hs] at hs0
  cases hs0
  obtain ⟨d, rfl, hone⟩ := reencode_one hd
  rcases hcase with ⟨hv, _⟩ | ⟨_, ho⟩ | ⟨_, ho⟩
  · exact absurd hv hnt
  -- `Invalid` and `Unimplemented` alike: `WireOk` of the re-encoding names the code and the value octets
  all_goals
    cases ho
    obtain ⟨e, e1, _, _, e4⟩ := hone trivial
    obtain ⟨fl', tc', v', hsp, h1, h2, _⟩ := (e4 r').2
    cases UInt8.toNat_inj.mp h1
    cases h2
    exact ⟨_, e, fl', hd, fun a => by simp, e1, hsp⟩

example : Rc.Thm.C04.rawFits 0xD0 [0xAA, 0xBB] = true ∧ validate 99 true [0xAA, 0xBB] ≠ some true := by decide

/-- *the F7 / F8 clause*: for the `Unimplemented` and `Invalid` arms `compose_len`
is the number of octets `compose` writes – for every flags value, code and value
of any length (also beyond what the length field can express). -/
theorem len_eq (f c : Nat) (v : Bytes) :
    (∃ e, encOwned (.unimplemented f c v) = .ok e ∧ lenOwned (.unimplemented f c v) = .ok e.length) ∧
    (∃ e, encOwned (.invalid f c v) = .ok e ∧ lenOwned (.invalid f c v) = .ok e.length) := by
  constructor <;> exact ⟨_, rfl, by simp [lenOwned, rawHeader_length]⟩

/-! ## the three routes -/

/-- what `PaMap::from_update_pdu` keeps of the owned attributes, one by one -/
def mapStep (m : List Decoded) (d : Decoded) : List Decoded :=
  if codeOf d = 14 ∨ codeOf d = 15 then m else insFirst d m

private theorem fromPdu_ok : ∀ (owned m : List Decoded),
    fromPdu (owned.map .ok) m = .ok (owned.foldl mapStep m)
  | [], m => rfl
  | d :: r, m => by
    simp only [List.map_cons, fromPdu, List.foldl_cons, mapStep]
    split <;> exact fromPdu_ok r _

private theorem mem_insFirst {d x : Decoded} {m : List Decoded} (h : x ∈ insFirst d m) : x = d ∨ x ∈ m := by
  fun_induction insFirst d m with
  | case1 => simpa using h
  | case2 => exact List.mem_cons.mp h
  | case3 => exact .inr h
  | case4 b m _ _ ih =>
    rcases List.mem_cons.mp h with rfl | h
    · exact .inr (List.mem_cons_self ..)
    · exact (ih h).imp_right (List.mem_cons_of_mem _)

private theorem mem_foldl_mapStep : ∀ (owned m : List Decoded) (x : Decoded), x ∈ owned.foldl mapStep m →
    (x ∈ m ∨ (x ∈ owned ∧ codeOf x ≠ 14 ∧ codeOf x ≠ 15))
  | [], m, x, h => Or.inl h
  | d :: r, m, x, h => by
    simp only [List.foldl_cons] at h
    rcases mem_foldl_mapStep r _ x h with h | h
    · unfold mapStep at h
      split at h
      · exact Or.inl h
      · rename_i hmp
        rcases mem_insFirst h with rfl | h
        · exact Or.inr ⟨by simp, by omega, by omega⟩
        · exact Or.inl h
    · exact Or.inr ⟨by simp [h.1], h.2⟩

/-- strictly ascending type codes: at most one attribute per code, in the order
a `BTreeMap<u8, _>` iterates -/
def Ascending (m : List Decoded) : Prop := m.Pairwise (fun a b => codeOf a < codeOf b)

private theorem insFirst_ascending {d : Decoded} {m : List Decoded} (h : Ascending m) : Ascending (insFirst d m) := by
  unfold Ascending at h ⊢
  fun_induction insFirst d m with
  | case1 => simp
  | case2 b m hlt =>
    refine List.pairwise_cons.mpr ⟨fun x hx => ?_, h⟩
    rcases List.mem_cons.mp hx with rfl | hx
    · exact hlt
    · exact Nat.lt_trans hlt ((List.pairwise_cons.mp h).1 x hx)
  | case3 => exact h
  | case4 b m h1 h2 ih =>
    rw [List.pairwise_cons] at h ⊢
    refine ⟨fun x hx => ?_, ih h.2⟩
    rcases mem_insFirst hx with rfl | hx
    · omega
    · exact h.1 x hx

private theorem fold_ascending : ∀ (owned m : List Decoded), Ascending m → Ascending (owned.foldl mapStep m)
  | [], _, h => h
  | d :: r, m, h => by
    simp only [List.foldl_cons]
    apply fold_ascending r
    unfold mapStep
    split
    · exact h
    · exact insFirst_ascending h

/-- *"directly, through the attribute map, or through a builder seeded from the
message"*: the three routes agree.  For a section that parses, with `owned` the
attributes the direct route composes:

* `PaMap::from_update_pdu` succeeds; the map holds exactly the owned attributes
  other than MP_REACH_NLRI / MP_UNREACH_NLRI, kept by `mapStep` (the first of
  repeated attributes), in strictly ascending type code;
* composing the map succeeds, `bytes_len()` is the number of octets written,
  and the octets decode to the map's attributes one for one, with the same
  flags / code / value reading (`WireAll`) as on the direct route;
* whenever the builder route returns a PDU it is: marker, length, type 2, no
  withdrawn routes, the attribute length, then exactly the octets of the map
  route – and both length fields are the true lengths. -/
theorem three_routes_agree_of_fit (sec : Bytes) (ds : List (Outcome Decoded))
    (hacc : decAll true sec.length sec = .ok ds) (hfit : ∀ d, Outcome.ok d ∈ ds → FitsD d) :
    ∃ owned m out, ownedList sec = .ok owned ∧ mapOf sec = .ok m ∧ m = owned.foldl mapStep [] ∧
      (∀ x ∈ m, x ∈ owned ∧ codeOf x ≠ 14 ∧ codeOf x ≠ 15) ∧ Ascending m ∧
      viaMap sec = .ok out ∧ lenList m = .ok out.length ∧
      decAll true out.length out = .ok (m.map fun d => .ok (renorm d)) ∧
      (∃ ws, splitAll out.length out = some ws ∧ WireAll m ws) ∧
      (∀ pdu, viaBuilder sec = .ok pdu →
        pdu = List.replicate 16 (0xff : UInt8) ++ be16 (23 + out.length) ++ [2] ++ be16 0 ++ be16 out.length ++ out ∧
          23 + out.length ≤ 4096 ∧ pdu.length = 23 + out.length) := by
  obtain ⟨owned, i1, i2, hgood⟩ := owned_good _ _ _ hacc hfit
  have hm : mapOf sec = .ok (owned.foldl mapStep []) := by
    simp only [mapOf, hacc, i2]; exact fromPdu_ok owned []
  have hmem : ∀ x ∈ owned.foldl mapStep [], x ∈ owned ∧ codeOf x ≠ 14 ∧ codeOf x ≠ 15 :=
    fun x hx => (mem_foldl_mapStep owned [] x hx).resolve_left List.not_mem_nil
  obtain ⟨out, o1, o2, o3⟩ := enc_list_spec (owned.foldl mapStep []) (fun d hd => hgood d (hmem d hd).1)
  refine ⟨owned, _, out, by simp [ownedList, hacc, i1], hm, rfl, hmem,
    fold_ascending owned [] (by simp [Ascending]), by simp [viaMap, hm, o1], o2, (o3 _ (Nat.le_refl _)).1,
    (o3 _ (Nat.le_refl _)).2, ?_⟩
  intro pdu hb
  simp only [viaBuilder, hm, finishAttrs, o2, o1] at hb
  split at hb
  · cases hb
  · rename_i hsz
    split at hb
    · simp only [Outcome.ok.injEq] at hb
      subst hb
      refine ⟨by simp [Nat.add_comm], by simp [MAX_PDU] at hsz; omega, by simp; omega⟩
    · cases hb
    · cases hb

/-! ## the NLRI re-added -/

/-- *"when the message's NLRI are re-added the result also carries the same
announcements and withdrawals"* – for each of the 13 families, without and with
ADD-PATH path identifiers, and every octet string `bs` found in an NLRI section:
the NLRI the typed iterator yields before its first error (all of them when the
section is well formed) are composed without panic, and the octets written
decode to exactly that list and end cleanly.  (From the C05 laws
`dec_wf` / `roundtrip_exact`.) -/
theorem reencode_nlri (f : Rc.Nlri.Fam) (bs : Bytes) :
    (∀ ns, readd (Rc.Nlri.codec f) bs = .ok ns →
      ∃ out, recompose (Rc.Nlri.codec f) bs = .ok out ∧ Rc.Nlri.decAll (Rc.Nlri.codec f) out = .ok (ns, true) ∧
        readd (Rc.Nlri.codec f) out = .ok ns) ∧
    (∀ ns, readd (Rc.Nlri.codecAp f) bs = .ok ns →
      ∃ out, recompose (Rc.Nlri.codecAp f) bs = .ok out ∧ Rc.Nlri.decAll (Rc.Nlri.codecAp f) out = .ok (ns, true) ∧
        readd (Rc.Nlri.codecAp f) out = .ok ns) := by
  have gen : ∀ {α} (c : Rc.Nlri.Codec α), c.Laws → c.Sound → ∀ ns, readd c bs = .ok ns →
      ∃ out, recompose c bs = .ok out ∧ Rc.Nlri.decAll c out = .ok (ns, true) ∧ readd c out = .ok ns := by
    intro α c laws hs ns h
    obtain ⟨ns', h', hw, _⟩ := readd_spec hs bs
    rw [h] at h'; cases h'
    obtain ⟨out, h1, h2⟩ := laws.list_roundtrip ns hw
    exact ⟨out, by simp [recompose, h, h1], h2, by simp [readd, h2]⟩
  exact ⟨gen _ (Rc.Nlri.codec_laws f) (Rc.Nlri.codec_sound f),
    gen _ (Rc.Nlri.codecAp_laws f) (Rc.Nlri.codec_sound f).addpath⟩

/-! ## sections of at most 43690 octets (every UPDATE of at most 4096 octets) -/

private theorem decAll_mem : ∀ f bs ds, decAll true f bs = .ok ds →
    ∀ od ∈ ds, ∃ bs' r, decAttr true bs' = .ok (od, r) ∧ bs'.length ≤ bs.length := by
  refine decAll_ind ?_ ?_
  · simp
  · intro f bs od r l hd hlt ih x hx
    rcases List.mem_cons.mp hx with rfl | hx
    · exact ⟨bs, r, hd, Nat.le_refl _⟩
    · obtain ⟨bs', r', h1, h2⟩ := ih x hx
      exact ⟨bs', r', h1, by omega⟩

/-- in a section of at most 43690 octets every AS_PATH / AS4_PATH re-composes
into a value the two-octet length field can express: re-composing a received
path never takes more than one and a half times its octets
(`path_recompose_len`). -/
theorem paths_fit (sec : Bytes) (ds : List (Outcome Decoded)) (hacc : decAll true sec.length sec = .ok ds)
    (hlen : sec.length ≤ 43690) : ∀ d, Outcome.ok d ∈ ds → FitsD d := by
  intro d hd
  obtain ⟨bs', r, hdec, hle⟩ := decAll_mem _ _ _ hacc _ hd
  obtain ⟨fl, tc, v, hs, hcase⟩ := decAttr_cases hdec
  obtain ⟨_, hl, _, _⟩ := splitAttr_spec hs
  have hvl : v.length ≤ 43690 := by split at hl <;> omega
  rcases hcase with ⟨hv, ho⟩ | ⟨_, ho⟩ | ⟨_, ho⟩
  · obtain ⟨a, hp, _, hcode, _, h2, h17⟩ := typed_spec tc.toNat v hv
    simp only [hp, Outcome.ok.injEq] at ho
    subst ho
    intro hc w hw
    rw [hcode] at hc
    obtain ⟨h, rfl, pv⟩ | ⟨h, rfl, pv⟩ := hc.imp h2 h17
    all_goals
      have := path_recompose_len v h pv w (by simpa [composeValue] using hw)
      omega
  · cases ho; trivial
  · cases ho; trivial

/-- `reencode_attrs_of_fit` for every attribute section of at most 43690 octets
that parses – in particular for the attributes of every accepted UPDATE of at
most 4096 octets (RFC 4271) – with no further hypothesis. -/
theorem reencode_attrs (sec : Bytes) (ds : List (Outcome Decoded))
    (hacc : decAll true sec.length sec = .ok ds) (hlen : sec.length ≤ 43690) :
    ∃ owned out, ownedList sec = .ok owned ∧ direct sec = .ok out ∧ lenList owned = .ok out.length ∧
      decAll true out.length out = .ok (owned.map fun d => .ok (renorm d)) ∧
      ∃ ws, splitAll out.length out = some ws ∧ WireAll owned ws :=
  reencode_attrs_of_fit sec ds hacc (paths_fit sec ds hacc hlen)

/-- `three_routes_agree_of_fit` under the same size bound, no further hypothesis. -/
theorem three_routes_agree (sec : Bytes) (ds : List (Outcome Decoded))
    (hacc : decAll true sec.length sec = .ok ds) (hlen : sec.length ≤ 43690) :
    ∃ owned m out, ownedList sec = .ok owned ∧ mapOf sec = .ok m ∧ m = owned.foldl mapStep [] ∧
      (∀ x ∈ m, x ∈ owned ∧ codeOf x ≠ 14 ∧ codeOf x ≠ 15) ∧ Ascending m ∧
      viaMap sec = .ok out ∧ lenList m = .ok out.length ∧
      decAll true out.length out = .ok (m.map fun d => .ok (renorm d)) ∧
      (∃ ws, splitAll out.length out = some ws ∧ WireAll m ws) ∧
      (∀ pdu, viaBuilder sec = .ok pdu →
        pdu = List.replicate 16 (0xff : UInt8) ++ be16 (23 + out.length) ++ [2] ++ be16 0 ++ be16 out.length ++ out ∧
          23 + out.length ≤ 4096 ∧ pdu.length = 23 + out.length) :=
  three_routes_agree_of_fit sec ds hacc (paths_fit sec ds hacc hlen)

/-! ## the builder route succeeds -/

private theorem mpPeek_ok : ∀ f bs ws, splitAll f bs = some ws →
    (∀ w ∈ ws, w.2.1.toNat ≠ 14 ∧ w.2.1.toNat ≠ 15) → ∀ g, mpPeek g bs = .ok () := by
  refine splitAll_ind ?_ ?_
  · intro _ _ g
    cases g <;> rfl
  · intro f bs fl tc v r l hs ih hc g
    cases g with
    | zero => rfl
    | succ g =>
      have h1 := hc (fl, tc, v) (by simp)
      simp only [mpPeek, hs, h1.1, h1.2, if_false]
      exact ih (fun w hw => hc w (by simp [hw])) g

private theorem wireAll_codes (p : Nat → Prop) (m : List Decoded) (ws : List (UInt8 × UInt8 × Bytes)) (h : WireAll m ws)
    (hc : ∀ x ∈ m, p (codeOf x)) : ∀ w ∈ ws, p w.2.1.toNat := by
  fun_induction WireAll m ws with
  | case1 => simp
  | case2 d ds w ws ih =>
    obtain ⟨h1, h2⟩ := List.forall_mem_cons.mp hc
    exact List.forall_mem_cons.mpr ⟨h.1.1 ▸ h1, ih h.2 h2⟩
  | case3 => exact h.elim

private theorem attrSection_of_walks {bs : Bytes} {l : List (Outcome Decoded)} (hdec : decAll true bs.length bs = .ok l)
    (hpeek : mpPeek bs.length bs = .ok ()) : attrSection bs = .ok () := by
  unfold attrSection
  rw [(attrsWalk_iff _ _).mpr ⟨l, hdec⟩]
  exact hpeek

private theorem mkPdu_attrs (a : Bytes) : mkPdu [] a [] =
    List.replicate 16 (0xff : UInt8) ++ be16 (23 + a.length) ++ [2] ++ be16 0 ++ be16 a.length ++ a := by
  simp only [mkPdu, List.length_nil, List.append_nil]
  rw [show 19 + 2 + 0 + 2 + a.length + 0 = 23 + a.length by omega]

private theorem parsePdu_attrs_only (out : Bytes) (hsec : attrSection out = .ok ()) (hsz : 23 + out.length ≤ 65535) :
    ∃ p, parsePdu (List.replicate 16 (0xff : UInt8) ++ be16 (23 + out.length) ++ [2] ++ be16 0 ++
      be16 out.length ++ out) = .ok p := by
  have hN : (23 + out.length) / 256 % 256 * 256 + (23 + out.length) % 256 = 23 + out.length := by
    rw [Nat.mod_eq_of_lt (by omega), Nat.div_add_mod']
  have hn : out.length / 256 % 256 * 256 + out.length % 256 = out.length := by
    rw [Nat.mod_eq_of_lt (by omega), Nat.div_add_mod']
  have hk : 23 + out.length - 19 - (4 + out.length) = 0 := by omega
  have hlt : ¬ 23 + out.length < 19 := by omega
  have hann : ¬ 23 + out.length - 19 < 4 + out.length := by omega
  have hconv : convOk [] = .ok () := rfl
  have hs : (if 0 < out.length then attrSection out else .ok ()) = .ok () := by
    split
    · exact hsec
    · rfl
  simp only [parsePdu, takeN, rd16, be16, List.replicate, List.cons_append, List.nil_append, List.length_cons,
    List.take_succ_cons, List.take_zero, List.drop_succ_cons, List.drop_zero]
  rw [if_pos (by omega)]
  simp [hN, hn, hk, hlt, hann, hs, hconv]

/-- *"through a builder seeded from the message - succeeds"* (audit C07-F1): for a
section that parses and whose attributes other than MP_REACH_NLRI / MP_UNREACH_NLRI
re-encode to at most 4073 octets - in particular for the attributes of every accepted
UPDATE of at most 4096 octets whose re-encoding is not longer than what was received -
`UpdateBuilder::from_update_message` + `into_message` return a PDU (and
`three_routes_agree` says which).  `_partial`: above that size `into_message` returns
`PduTooLarge` (`builder_route_too_large`): `UpdateMessage::from_octets` accepts UPDATEs
of up to 65535 octets, the builder writes at most `MAX_PDU` = 4096 - so the clause as
the property states it (`BuilderRouteStatement`) is false: `builder_route_fails`, known
finding K12. -/
theorem builder_route_succeeds_partial (sec : Bytes) (ds : List (Outcome Decoded))
    (hacc : decAll true sec.length sec = .ok ds) (hlen : sec.length ≤ 43690)
    (out : Bytes) (hout : viaMap sec = .ok out) (hsz : 23 + out.length ≤ 4096) :
    ∃ pdu, viaBuilder sec = .ok pdu := by
  obtain ⟨owned, m, out', _, hm, _, hmem, _, hvm, hl, hdec, ⟨ws, hws, hwa⟩, _⟩ := three_routes_agree sec ds hacc hlen
  have : out' = out := by rw [hvm] at hout; cases hout; rfl
  subst this
  obtain ⟨p, hp⟩ := parsePdu_attrs_only out'
    (attrSection_of_walks hdec (mpPeek_ok _ _ _ hws (wireAll_codes (fun c => c ≠ 14 ∧ c ≠ 15) m ws hwa (fun x hx => (hmem x hx).2)) _)) (by omega)
  have henc : encList m = .ok out' := by simpa [viaMap, hm] using hvm
  have hL : 16 + 2 + 1 + 2 + (2 + out'.length) = 23 + out'.length := by omega
  have hns : ¬ (23 + out'.length > MAX_PDU) := by simp [MAX_PDU]; omega
  simp only [viaBuilder, hm, finishAttrs, hl, henc, hL, hns, if_false, hp]
  exact ⟨_, rfl⟩

/-- ... and exactly then: a map that re-encodes to more than 4073 octets makes
`into_message` return an error (`PduTooLarge`), never a panic and never a PDU. -/
theorem builder_route_too_large (sec : Bytes) (ds : List (Outcome Decoded))
    (hacc : decAll true sec.length sec = .ok ds) (hlen : sec.length ≤ 43690)
    (out : Bytes) (hout : viaMap sec = .ok out) (hsz : 4096 < 23 + out.length) :
    viaBuilder sec = .err := by
  obtain ⟨owned, m, out', _, hm, _, _, _, hvm, hl, _, _, _⟩ := three_routes_agree sec ds hacc hlen
  have : out' = out := by rw [hvm] at hout; cases hout; rfl
  subst this
  simp only [viaBuilder, hm, finishAttrs, hl]
  have hns : 16 + 2 + 1 + 2 + (2 + out'.length) > MAX_PDU := by simp [MAX_PDU]; omega
  simp only [hns, if_true]

/-- the clause as the property states it: for EVERY attribute section that parses (here
even restricted to the sizes the other theorems cover) the builder route succeeds -/
def BuilderRouteStatement : Prop :=
  ∀ (sec : Bytes) (ds : List (Outcome Decoded)), decAll true sec.length sec = .ok ds → sec.length ≤ 43690 →
    ∃ pdu, viaBuilder sec = .ok pdu

/-- the witness of K12: one unrecognised attribute (type 99, flags 0xD0) with a 4080-octet
value.  The PDU around it has 4107 octets and is accepted (`k12_accepted`) -/
def k12Section : Bytes := [0xD0, 99, 0x0F, 0xF0] ++ List.replicate 4080 0xAA

private theorem decAll_one {bs : Bytes} {od : Outcome Decoded} (h : decAttr true bs = .ok (od, [])) :
    decAll true bs.length bs = .ok [od] := by
  match bs, h with
  | [], h => simp [decAttr, parseWire, splitAttr] at h
  | b :: t, h => simp only [List.length_cons, decAll, List.isEmpty_cons, Bool.false_eq_true, if_false, h, decAll_nil]

private theorem mpPeek_one (g : Nat) {bs : Bytes} {fl tc : UInt8} {v : Bytes} (hs : splitAttr bs = some (fl, tc, v, []))
    (h14 : tc.toNat ≠ 14) (h15 : tc.toNat ≠ 15) : mpPeek g bs = .ok () := by
  cases g with
  | zero => rfl
  | succ g => simp only [mpPeek, hs, h14, h15, if_false]; cases g <;> rfl

/-- the witness is one raw attribute (`Rc.Thm.C04.rawAttr`): the lemmas about a single attribute
apply, and the 4080 value octets are never walked -/
private theorem k12_raw : k12Section = Rc.Thm.C04.rawAttr 0xD0 99 (List.replicate 4080 0xAA) ++ [] := by
  have e : extBit 0xD0 = true := by decide
  simp only [k12Section, Rc.Thm.C04.rawAttr, e, if_true, List.length_replicate, be16, List.cons_append, List.nil_append,
    List.append_nil]
  rfl

private theorem k12_fits : Rc.Thm.C04.rawFits 0xD0 (List.replicate 4080 0xAA) = true := by
  simp only [Rc.Thm.C04.rawFits, List.length_replicate]; decide

private theorem k12_dec : decAll true k12Section.length k12Section =
    .ok [.ok (.unimplemented 0xD0 99 (List.replicate 4080 0xAA))] := by
  have := Rc.Thm.C04.unrecognised_is_unimplemented true 0xD0 99 (List.replicate 4080 0xAA) [] k12_fits (by decide)
  rw [← k12_raw] at this
  exact decAll_one this

private theorem k12_len : k12Section.length = 4084 := by
  unfold k12Section
  rw [List.length_append, List.length_replicate]; rfl

theorem k12_accepted : (parsePdu (mkPdu [] k12Section [])).isOk = true := by
  have hs := Rc.Thm.C04.splitAttr_raw 0xD0 99 (List.replicate 4080 0xAA) [] k12_fits
  rw [← k12_raw] at hs
  obtain ⟨p, hp⟩ := parsePdu_attrs_only k12Section
    (attrSection_of_walks k12_dec (mpPeek_one _ hs (by decide) (by decide))) (by rw [k12_len]; decide)
  rw [mkPdu_attrs, hp]; rfl

private theorem viaBuilder_one_too_large {sec : Bytes} {d : Decoded} {n : Nat}
    (hd : decAll true sec.length sec = .ok [.ok d]) (h14 : codeOf d ≠ 14) (h15 : codeOf d ≠ 15)
    (hl : lenOwned d = .ok n) (hn : 4073 < n) : viaBuilder sec = .err := by
  have hgt : 16 + 2 + 1 + 2 + (2 + (n + 0)) > MAX_PDU := by simp [MAX_PDU]; omega
  simp only [viaBuilder, mapOf, hd, fromPdu, h14, h15, or_self, if_false, insFirst, finishAttrs, lenList, hl, hgt, if_true]

/-- known finding K12: the builder route fails (`PduTooLarge`) on that accepted UPDATE -/
theorem builder_route_fails : ¬ BuilderRouteStatement := by
  intro h
  obtain ⟨pdu, hp⟩ := h k12Section _ k12_dec (by rw [k12_len]; decide)
  rw [viaBuilder_one_too_large k12_dec (by decide) (by decide) rfl (by simp only [List.length_replicate]; decide)] at hp
  cases hp

/-- a section with an unrecognised attribute (EXTENDED_LEN on two octets), a
malformed ORIGIN and a well-formed MED satisfies the hypotheses -/
example : ∃ ds, decAll true 16 [0xD0, 99, 0, 2, 0xAA, 0xBB, 0x40, 1, 0, 0x80, 4, 4, 0, 0, 0, 7] = .ok ds := ⟨_, rfl⟩

/-! ## two-octet sessions (`SessionConfig::legacy()`)

`pdu.path_attributes()` reads AS_PATH and AGGREGATOR two octets wide there;
`PathAttribute::compose` knows no session and writes them four octets wide.
So the property holds in such a session exactly as far as the section holds
neither (`reencode_two_octet_partial`), fails otherwise (`two_octet_fails`:
known finding K9, request lines `re2w`), and what the code does instead is
proved as `two_octet_widened_path` / `_aggregator`: the octets written are the
four-octet form of the same path / aggregator. -/

/-- no AS_PATH and no AGGREGATOR, over the header walk of the section -/
def widthFree : Nat → Bytes → Bool
  | 0, _ => true
  | f + 1, bs =>
    match splitAttr bs with
    | none => true
    | some (_, tc, _, r) => tc.toNat != 2 && tc.toNat != 7 && widthFree f r

private theorem decAttr_width {bs : Bytes} {fl tc : UInt8} {v r : Bytes} (hs : splitAttr bs = some (fl, tc, v, r))
    (h2 : tc.toNat ≠ 2) (h7 : tc.toNat ≠ 7) :
    decAttr false bs = decAttr true bs ∧ ∃ od, decAttr true bs = .ok (od, r) := by
  simp only [decAttr, parseWire, hs, validate_width _ v h2 h7]
  cases hv : validate tc.toNat true v with
  | none => simp [toOwned]
  | some b => cases b <;> simp [toOwned, parseValue_width _ v h2 h7]

private theorem decAll_width (f : Nat) (bs : Bytes) (h : widthFree f bs = true) : decAll false f bs = decAll true f bs := by
  fun_induction widthFree f bs with
  | case1 => simp [decAll]
  | case2 f bs hs => simp [decAll, decAttr, parseWire, hs]
  | case3 f bs fl tc v r hs ih =>
    simp only [Bool.and_eq_true, bne_iff_ne, ne_eq] at h
    obtain ⟨e1, od, e2⟩ := decAttr_width hs h.1.1 h.1.2
    simp only [decAll, e1, e2, ih h.2]

/-- the codes of what a width-free section decodes to -/
private theorem codes_of_free : ∀ f bs ds, decAll true f bs = .ok ds →
    widthFree f bs = true → ∀ d, Outcome.ok d ∈ ds → codeOf d ≠ 2 ∧ codeOf d ≠ 7 := by
  refine decAll_ind ?_ ?_
  · simp
  · intro f bs od r l hd _ ih hw d hm
    rcases List.mem_cons.mp hm with rfl | hm
    · obtain ⟨fl, tc, v, hs, hcode⟩ := codeOf_decAttr hd
      simp only [widthFree, hs, Bool.and_eq_true, bne_iff_ne, ne_eq] at hw
      rw [hcode]; exact hw.1
    · obtain ⟨fl, tc, v, hs, _⟩ := decAttr_cases hd
      simp only [widthFree, hs, Bool.and_eq_true] at hw
      exact ih hw.2 d hm

private theorem free_of_walk : ∀ f bs ws, splitAll f bs = some ws →
    (∀ w ∈ ws, w.2.1.toNat ≠ 2 ∧ w.2.1.toNat ≠ 7) → widthFree f bs = true := by
  refine splitAll_ind ?_ ?_
  · intro f _
    cases f <;> rfl
  · intro f bs fl tc v r l hs ih hc
    have h1 := hc (fl, tc, v) (by simp)
    simp only [widthFree, hs, Bool.and_eq_true, bne_iff_ne, ne_eq]
    exact ⟨⟨h1.1, h1.2⟩, ih (fun w hw => hc w (by simp [hw]))⟩

/-- *the property in a two-octet session, for sections without AS_PATH and
AGGREGATOR* (AS4_PATH, AS4_AGGREGATOR and everything else included – after the
repair F30 AS4_PATH is read four octets wide in every session): every
`to_owned()` succeeds, composing succeeds, `compose_len` summed is the number of
octets written, and **the same two-octet session** decodes the octets written to
the same owned attributes, one for one; the independent header walk finds the
codes, flags and values `WireOk` prescribes; the map route and the builder route
agree with the direct one as in `three_routes_agree`. -/
theorem reencode_two_octet_partial (sec : Bytes) (ds : List (Outcome Decoded))
    (hfree : widthFree sec.length sec = true)
    (hacc : decAll false sec.length sec = .ok ds) (hlen : sec.length ≤ 43690) :
    ∃ owned out, ownedListW false sec = .ok owned ∧ directW false sec = .ok out ∧ lenList owned = .ok out.length ∧
      decAll false out.length out = .ok (owned.map fun d => .ok (renorm d)) ∧
      (∃ ws, splitAll out.length out = some ws ∧ WireAll owned ws) ∧
      ownedListW false sec = ownedList sec ∧ directW false sec = direct sec ∧ mapOfW false sec = mapOf sec ∧
      viaMapW false sec = viaMap sec ∧ viaBuilderW false sec = viaBuilder sec := by
  have hw := decAll_width sec.length sec hfree
  have hacc4 : decAll true sec.length sec = .ok ds := by rw [← hw]; exact hacc
  obtain ⟨owned, j1, hds, hgood⟩ := owned_good _ _ _ hacc4 (paths_fit sec ds hacc4 hlen)
  obtain ⟨out, j2, i3, j4⟩ := enc_list_spec owned hgood
  obtain ⟨i4, ws, i5, i6⟩ := j4 _ (Nat.le_refl _)
  have i1 : ownedList sec = .ok owned := by simp [ownedList, hacc4, j1]
  have i2 : direct sec = .ok out := by simp [direct, i1, j2]
  have e1 : ownedListW false sec = ownedList sec := by simp [ownedListW, ownedList, hw]
  have e2 : directW false sec = direct sec := by simp [directW, direct, e1]
  have e3 : mapOfW false sec = mapOf sec := by simp [mapOfW, mapOf, hw]
  have e4 : viaMapW false sec = viaMap sec := by simp [viaMapW, viaMap, e3]
  have e5 : viaBuilderW false sec = viaBuilder sec := by simp [viaBuilderW, viaBuilder, e3]
  -- the octets written hold no AS_PATH / AGGREGATOR either: the same session reads them the same way
  have hcodes : ∀ d ∈ owned, codeOf d ≠ 2 ∧ codeOf d ≠ 7 := fun d hd =>
    codes_of_free _ _ _ hacc4 hfree d (by rw [hds]; exact List.mem_map.mpr ⟨d, hd, rfl⟩)
  have hfo : widthFree out.length out = true :=
    free_of_walk _ _ _ i5 (wireAll_codes (fun c => c ≠ 2 ∧ c ≠ 7) owned ws i6 hcodes)
  refine ⟨owned, out, by rw [e1]; exact i1, by rw [e2]; exact i2, i3, ?_, ⟨ws, i5, i6⟩, e1, e2, e3, e4, e5⟩
  rw [decAll_width out.length out hfo]; exact i4

/-- an ORIGIN, an AS4_PATH with one AS, an AS4_AGGREGATOR and an unrecognised
attribute satisfy the hypotheses -/
example : widthFree 27 [0x40, 1, 1, 0, 0xC0, 17, 6, 2, 1, 0, 1, 0xfd, 0xe8, 0xC0, 18, 8, 0, 1, 0xfd, 0xe8, 10, 0, 0, 1, 0xC0, 99, 0] = true ∧
    ∃ ds, decAll false 27 [0x40, 1, 1, 0, 0xC0, 17, 6, 2, 1, 0, 1, 0xfd, 0xe8, 0xC0, 18, 8, 0, 1, 0xfd, 0xe8, 10, 0, 0, 1, 0xC0, 99, 0] = .ok ds :=
  ⟨rfl, _, rfl⟩

/-- the statement one would like for every section a two-octet session accepts -/
def TwoOctetStatement : Prop :=
  ∀ (sec : Bytes) (ds : List (Outcome Decoded)), decAll false sec.length sec = .ok ds → sec.length ≤ 43690 →
    ∃ owned out, ownedListW false sec = .ok owned ∧ directW false sec = .ok out ∧
      decAll false out.length out = .ok (owned.map fun d => .ok (renorm d))

/-- K9: AS_PATH `AS_SEQUENCE(65000)` received two octets wide is written as
`02 01 00 00 fd e8`; the two-octet session reads that as a malformed AS_PATH
(an `Invalid` attribute), not as the path received. -/
theorem two_octet_fails : ¬ TwoOctetStatement := by
  intro h
  obtain ⟨owned, out, h1, h2, h3⟩ := h [0x40, 2, 4, 2, 1, 0xfd, 0xe8] _ rfl (by decide)
  have e1 : ownedListW false [0x40, 2, 4, 2, 1, 0xfd, 0xe8] = .ok [.typed (.asPath [.asn 65000])] := rfl
  have e2 : directW false [0x40, 2, 4, 2, 1, 0xfd, 0xe8] = .ok [0x40, 2, 6, 2, 1, 0, 0, 0xfd, 0xe8] := rfl
  rw [e1] at h1; cases h1
  rw [e2] at h2; cases h2
  have e3 : decAll false 9 [0x40, 2, 6, 2, 1, 0, 0, 0xfd, 0xe8] = .ok [.ok (.invalid 0x40 2 [2, 1, 0, 0, 0xfd, 0xe8])] := rfl
  simp only [List.length_cons, List.length_nil] at h3
  rw [e3] at h3
  simp [renorm] at h3

/-- *what the code does with an AS_PATH of a two-octet session*: the value is
read two octets wide into a hop path `h`; composing writes `w`, which is a
well-formed **four-octet** AS_PATH whose hops are those of `h` (`Hop.norm true`
only marks segment hops as read from a four-octet path, which `==` on `HopPath`
does not see, C13). So a four-octet reader of the re-encoding sees the path
that was received. -/
theorem two_octet_widened_path (v : Bytes) (hv : validate 2 false v = some true) :
    ∃ h w, parseValue 2 false v = .ok (.asPath h) ∧ composeValue (.asPath h) = .ok w ∧
      validate 2 true w = some true ∧ parseValue 2 true w = .ok (.asPath (h.map (Hop.norm true))) := by
  have hc : check false v = .ok () := check_of_pathValid (by simpa [validate] using hv)
  obtain ⟨ss, hss, _, _, hh, _⟩ := wire_view false v hc
  have hwf : WfHops (hopsOfSegs ss) = true := wfHops_hopsOfSegs false ss hss
  obtain ⟨w, c1, _, c3, c4⟩ := value_spec (.asPath (hopsOfSegs ss)) (by simpa [WfAttrW] using hwf)
  exact ⟨hopsOfSegs ss, w, by simp [parseValue, parsePath, hc, hh], c1, by simpa [TypedAttr.code] using c3,
    by simpa [TypedAttr.code, TypedAttr.norm] using c4⟩

example : validate 2 false [2, 2, 0xfd, 0xe8, 0, 1, 1, 1, 0, 7] = some true := rfl

/-- the same for AGGREGATOR: six octets (two-octet AS, IPv4 address) are read,
eight are written, and a four-octet reader finds the same AS number and
address. -/
theorem two_octet_widened_aggregator (v : Bytes) (hv : validate 7 false v = some true) :
    ∃ asn addr w, asn < 65536 ∧ parseValue 7 false v = .ok (.aggregator asn addr) ∧
      composeValue (.aggregator asn addr) = .ok w ∧ w.length = 8 ∧
      validate 7 true w = some true ∧ parseValue 7 true w = .ok (.aggregator asn addr) := by
  have hl : v.length = 6 := by simpa [validate] using hv
  match v, hl with
  | [a, b, c, d, e, f], _ =>
    have h16 : rd16 [a, b, c, d, e, f] = some (a.toNat * 256 + b.toNat, [c, d, e, f]) := rfl
    obtain ⟨addr, haddr, h32, _⟩ := rd32_exact (v := [c, d, e, f]) rfl
    have hasn : a.toNat * 256 + b.toNat < 65536 := by have := a.toNat_lt; have := b.toNat_lt; omega
    obtain ⟨w, c1, c2, c3, c4⟩ := value_spec (.aggregator (a.toNat * 256 + b.toNat) addr)
      (by simp only [WfAttrW, u32ok, Bool.and_eq_true, decide_eq_true_eq]; exact ⟨by omega, by omega⟩)
    refine ⟨_, addr, w, hasn, by simp [parseValue, h16, h32], c1, ?_, by simpa [TypedAttr.code] using c3,
      by simpa [TypedAttr.code, TypedAttr.norm] using c4⟩
    simp only [composeValue, Outcome.ok.injEq] at c1
    subst c1; simp

/-! ## the NLRI clause on the PDU the builder returns

`UpdateBuilder::from_update_message` + `add_announcements_from_pdu` +
`add_withdrawals_from_pdu` + `into_message` (`Rc.Reenc.readdPdu`) on a message the decoder
model of C01 / C02 accepted (`Rc.Upd.parseUpdate`), for a builder of the NLRI type of family
`f` - with path identifiers exactly when the session has ADD-PATH for `f`.  The views are the
decoder model's own accessors: `annView` / `wdView` = the items of
`typed_announcements::<_, A>()` / `typed_withdrawals::<_, A>()`, `announcements()` /
`withdrawals()` = the session-typed combined iterators. -/

private def toRaw (w : UInt8 × UInt8 × Bytes) : Rc.Upd.RawAttr := ⟨w.1, w.2.1, w.2.2⟩

/-- an attribute section the header walk accepts is the RFC framing of what it found -/
private theorem splitAll_raws : ∀ g bs ws, splitAll g bs = some ws →
    bs = Rc.Upd.encRaws (ws.map toRaw) ∧ ∀ a ∈ ws.map toRaw, a.wf = true := by
  refine splitAll_ind ?_ ?_
  · exact fun _ => ⟨rfl, by simp⟩
  · intro f bs fl tc v r l hs ⟨ih1, ih2⟩
    obtain ⟨hv, _, hbs, hshort⟩ := splitAttr_spec hs
    refine ⟨?_, List.forall_mem_cons.mpr ⟨?_, ih2⟩⟩
    · rw [List.map_cons, Rc.Upd.encRaws_cons, ← ih1, hbs]; rfl
    · show (Rc.Upd.RawAttr.mk fl tc v).wf = true
      simp only [Rc.Upd.RawAttr.wf]
      by_cases hx : extBit fl = true
      · simp [hx]; omega
      · simp only [hx, Bool.false_eq_true, if_false, decide_eq_true_eq]
        have := hshort (by simpa using hx); omega

/-- **reencode_whole_message** - *"when the message's NLRI are re-added the result also
carries the same announcements and withdrawals"*, on the PDU `into_message` returns, together
with the attribute clause.  For every session configuration `cfg` (any ADD-PATH map; either AS
number width - in a two-octet session for attribute sections without AS_PATH / AGGREGATOR, see
K9), every octet string `pdu` the decoder accepts as an UPDATE `m` in that session (attribute
section of at most 43690 octets: every UPDATE of at most 4096 octets), and every family `f` of
the 13, with a builder of `f`'s NLRI type that carries path ids exactly when the session has
ADD-PATH for `f`:

* the three builder calls never fail (`readdBuilder .. = .ok b`) and the builder holds the message's
  attribute map (`mapOfW .. = .ok b.attrs`).  What `b.ann` / `b.wd` hold is not exposed by this
  statement (it is `Rc.Reenc.addAnn_spec` / `addWd_spec`: the `Ok` items that
  `typed_announcements` / `typed_withdrawals` of the message yield before their first item that
  is not `Ok`, the repaired behaviour of K7); here it shows through the decoded result of the
  next bullet only;
* if the PDU length `calculate_pdu_length` computes is at most 4096, `into_message` returns
  a PDU `out`; the same session's decoder accepts `out`; **its conventional sections are empty:
  conventional IPv4 unicast NLRI of the source have moved into MP_REACH_NLRI / MP_UNREACH_NLRI
  of AFI/SAFI 1/1** (`finish` has no conventional path); the typed iterators of `out` yield
  exactly those items, every one `Ok`, and so do the session-typed `announcements()` /
  `withdrawals()` of `out` (as sequences, with path ids in an ADD-PATH session); the
  attribute section of `out` is the MP attributes followed by exactly the octets of the map
  route (`viaMapW`), about which `three_routes_agree` says the rest;
* if it is larger, `into_message` returns an error (`PduTooLarge`) - no panic, no PDU, and
  nothing further is said about the builder.  This happens for accepted UPDATEs of at most 4096
  octets too (the re-framing into MP attributes adds octets): known finding K16,
  `readd_within_limit_fails` below.

**The clause is per builder family.**  `UpdateBuilder<Target, A>` is typed by ONE NLRI type `A`
and `add_announcements_from_pdu` / `add_withdrawals_from_pdu` can add NLRI of that type only:
"the message's NLRI are re-added" is read as "the NLRI of the builder's family", and both sides of
every equation below are the views of ONE family `f` (`annView` / `wdView` = the decoder model's
`typed_*::<A>`).  An RFC-legal UPDATE that mixes families (conventional IPv4 NLRI next to an
MP_REACH_NLRI of another family) therefore loses the NLRI of the other families through any one
builder, without an error - the API offers no builder that could carry them (tools/props/C07.json
`assumptions`; request class `+foreign`).  Within the builder's family: for IPv4 unicast present
both in the conventional section and in an MP attribute the typed iterator - and so the builder
- takes the conventional ones only (known finding K15, `readd_drops_mp_ipv4_unicast`); of a
repeated MP_REACH_NLRI / MP_UNREACH_NLRI (RFC 7606 3.g: malformed, yet accepted) the first one
counts, as for `announcements()` / `withdrawals()` of the source. -/
theorem reencode_whole_message (cfg : Rc.Upd.Cfg) (f : Rc.Nlri.Fam) (pdu : Bytes) (m : Rc.Upd.Msg)
    (hacc : Rc.Upd.parseUpdate cfg pdu = .ok m) (hlen : m.attrs.length ≤ 43690)
    (hw : cfg.four = true ∨ widthFree m.attrs.length m.attrs = true) :
    ∃ (b : NlBuilder f) (n : Nat) (o : Bytes),
      readdBuilder m f (cfg.rx (Rc.Upd.famCode f)) = .ok b ∧ mapOfW cfg.four m.attrs = .ok b.attrs ∧
      viaMapW cfg.four m.attrs = .ok o ∧ lenList b.attrs = .ok n ∧
      (calcPduLen f (cfg.rx (Rc.Upd.famCode f)) b n ≤ 4096 →
        ∃ out m', readdPdu cfg m f (cfg.rx (Rc.Upd.famCode f)) = .ok out ∧ Rc.Upd.parseUpdate cfg out = .ok m' ∧
          m'.wd = [] ∧ m'.ann = [] ∧
          annView m' f (cfg.rx (Rc.Upd.famCode f)) = (okPrefix (annView m f (cfg.rx (Rc.Upd.famCode f)))).map .ok ∧
          wdView m' f (cfg.rx (Rc.Upd.famCode f)) = (okPrefix (wdView m f (cfg.rx (Rc.Upd.famCode f)))).map .ok ∧
          m'.announcements = .ok ((okPrefix (annView m f (cfg.rx (Rc.Upd.famCode f)))).map .ok, true) ∧
          m'.withdrawals = .ok ((okPrefix (wdView m f (cfg.rx (Rc.Upd.famCode f)))).map .ok, true) ∧
          ∃ mp, m'.attrs = Rc.Upd.encRaws mp ++ o ∧ (∀ a ∈ mp, a.tc.toNat = 14 ∨ a.tc.toNat = 15) ∧
            mp.length ≤ 2 ∧ out = Rc.Upd.frame [] m'.attrs []) ∧
      (4096 < calcPduLen f (cfg.rx (Rc.Upd.famCode f)) b n → readdPdu cfg m f (cfg.rx (Rc.Upd.famCode f)) = .err) := by
  obtain ⟨ds, hds⟩ := (attrsWalk_iff _ _).mp (Rc.Upd.parseUpdate_ok_attrs hacc)
  have hfour := (Rc.Upd.parseUpdate_ok_ppi hacc).1
  have hmapW : mapOfW cfg.four m.attrs = mapOf m.attrs := by
    rcases hw with hw | hw
    · rw [hw]; rfl
    · cases h4 : cfg.four
      · simp [mapOfW, mapOf, decAll_width _ _ hw]
      · rfl
  obtain ⟨owned, mp, o, _, hm, _, hmem, _, hvm, hl, _, ⟨ws, hws, hwa⟩, _⟩ := three_routes_agree m.attrs ds hds hlen
  have henc : encList mp = .ok o := by simpa [viaMap, hm] using hvm
  obtain ⟨hraws, hwf⟩ := splitAll_raws _ _ _ hws
  have hnomp : ∀ a ∈ ws.map toRaw, a.tc.toNat ≠ 14 ∧ a.tc.toNat ≠ 15 := by
    intro a ha
    obtain ⟨w, hw', rfl⟩ := List.mem_map.mp ha
    exact wireAll_codes (fun c => c ≠ 14 ∧ c ≠ 15) mp ws hwa (fun x hx => (hmem x hx).2) w hw'
  -- the three builder calls
  have hb0 : fromUpdateMessage m f = .ok { attrs := mp, ann := none, wd := none } := by
    simp [fromUpdateMessage, hfour, hmapW, hm]
  obtain ⟨la, hla, hla2, hla3⟩ := addAnn_spec m f (cfg.rx (Rc.Upd.famCode f)) { attrs := mp, ann := none, wd := none } rfl
  obtain ⟨lw, hlw, hlw2, hlw3⟩ := addWd_spec m f (cfg.rx (Rc.Upd.famCode f))
    { attrs := mp, ann := if la.isEmpty then none else some la, wd := none } rfl
  have hb : readdBuilder m f (cfg.rx (Rc.Upd.famCode f)) =
      .ok { attrs := mp, ann := if la.isEmpty then none else some la, wd := if lw.isEmpty then none else some lw } := by
    simp only [readdBuilder, hb0, hla3, hlw3]
  have hvmW : viaMapW cfg.four m.attrs = .ok o := by simp [viaMapW, hmapW, hm, henc]
  refine ⟨_, o.length, o, hb, by rw [hmapW, hm], hvmW, hl, ?_, ?_⟩
  · intro hsz
    rw [hraws] at henc hl hsz
    obtain ⟨out, m', na, nw, h1, h2, h3, h4, h5, h6, h7, h8, h9, h10⟩ :=
      finish_decodes cfg f _ rfl _ (ws.map toRaw) henc hl hwf hnomp la lw hla hlw rfl rfl hsz
    rw [Rc.Upd.reportNlris_eq, ← hla2] at h5 h7
    rw [Rc.Upd.reportNlris_eq, ← hlw2] at h6 h8
    refine ⟨out, m', by simp only [readdPdu, hb, h1], h2, h3, h4, h5, h6, h7, h8, mpRaws f la lw na nw, ?_, ?_, ?_, h10⟩
    · rw [h9, hraws]; simp [Rc.Upd.encRaws]
    · intro a ha
      rcases mem_mpRaws ha with ⟨_, rfl⟩ | ⟨_, rfl⟩
      · left; rfl
      · right; rfl
    · simp only [mpRaws, List.length_append]
      cases la.isEmpty <;> cases lw.isEmpty <;> simp
  · intro hsz
    rw [readdPdu, hb]
    exact nlIntoMessage_too_large cfg _ _ _ (nlIsValid_opt _ la lw rfl rfl) hl hsz

/-- **readd_preserves_nlri** - the clause as the property states it: when every NLRI of the
family in the accepted UPDATE parses (all items of the typed iterators are `Ok`) and the PDU
fits, the PDU `into_message` returns decodes, in the same session, to exactly the same
announcements and the same withdrawals of that family - as sequences, with their path ids in an
ADD-PATH session - now all carried in MP_REACH_NLRI / MP_UNREACH_NLRI (conventional IPv4
unicast NLRI included; the conventional sections of the result are empty). -/
theorem readd_preserves_nlri (cfg : Rc.Upd.Cfg) (f : Rc.Nlri.Fam) (pdu : Bytes) (m : Rc.Upd.Msg)
    (hacc : Rc.Upd.parseUpdate cfg pdu = .ok m) (hlen : m.attrs.length ≤ 43690)
    (hw : cfg.four = true ∨ widthFree m.attrs.length m.attrs = true)
    (hann : ∀ x ∈ annView m f (cfg.rx (Rc.Upd.famCode f)), Rc.Upd.isOkItem x = true)
    (hwd : ∀ x ∈ wdView m f (cfg.rx (Rc.Upd.famCode f)), Rc.Upd.isOkItem x = true)
    (out : Bytes) (hout : readdPdu cfg m f (cfg.rx (Rc.Upd.famCode f)) = .ok out) :
    ∃ m', Rc.Upd.parseUpdate cfg out = .ok m' ∧ m'.wd = [] ∧ m'.ann = [] ∧
      annView m' f (cfg.rx (Rc.Upd.famCode f)) = annView m f (cfg.rx (Rc.Upd.famCode f)) ∧
      wdView m' f (cfg.rx (Rc.Upd.famCode f)) = wdView m f (cfg.rx (Rc.Upd.famCode f)) ∧
      m'.announcements = .ok (annView m f (cfg.rx (Rc.Upd.famCode f)), true) ∧
      m'.withdrawals = .ok (wdView m f (cfg.rx (Rc.Upd.famCode f)), true) := by
  obtain ⟨b, n, o, _, _, _, _, hfit, hbig⟩ := reencode_whole_message cfg f pdu m hacc hlen hw
  by_cases hsz : calcPduLen f (cfg.rx (Rc.Upd.famCode f)) b n ≤ 4096
  · obtain ⟨out', m', h1, h2, h3, h4, h5, h6, h7, h8, _⟩ := hfit hsz
    rw [h1] at hout; cases hout
    rw [← okPrefix_all _ hann] at h5 h7
    rw [← okPrefix_all _ hwd] at h6 h8
    exact ⟨m', h2, h3, h4, h5, h6, h7, h8⟩
  · rw [hbig (by omega)] at hout; cases hout

/-- **readd_prefix_until_error** - an accepted UPDATE with an NLRI that does not parse (the
NLRI in MP attributes are not validated when the UPDATE is parsed): whenever `into_message`
returns a PDU, it carries exactly the NLRI before the first unparsable one - the `Ok` items
the typed iterators yield before their first `Err` - and nothing after it (the repaired
behaviour of K7; before the repair the re-add panicked). -/
theorem readd_prefix_until_error (cfg : Rc.Upd.Cfg) (f : Rc.Nlri.Fam) (pdu : Bytes) (m : Rc.Upd.Msg)
    (hacc : Rc.Upd.parseUpdate cfg pdu = .ok m) (hlen : m.attrs.length ≤ 43690)
    (hw : cfg.four = true ∨ widthFree m.attrs.length m.attrs = true)
    (out : Bytes) (hout : readdPdu cfg m f (cfg.rx (Rc.Upd.famCode f)) = .ok out) :
    ∃ m', Rc.Upd.parseUpdate cfg out = .ok m' ∧
      annView m' f (cfg.rx (Rc.Upd.famCode f)) = (okPrefix (annView m f (cfg.rx (Rc.Upd.famCode f)))).map .ok ∧
      wdView m' f (cfg.rx (Rc.Upd.famCode f)) = (okPrefix (wdView m f (cfg.rx (Rc.Upd.famCode f)))).map .ok := by
  obtain ⟨b, n, o, _, _, _, _, hfit, hbig⟩ := reencode_whole_message cfg f pdu m hacc hlen hw
  by_cases hsz : calcPduLen f (cfg.rx (Rc.Upd.famCode f)) b n ≤ 4096
  · obtain ⟨out', m', h1, h2, _, _, h5, h6, _⟩ := hfit hsz
    rw [h1] at hout; cases hout
    exact ⟨m', h2, h5, h6⟩
  · rw [hbig (by omega)] at hout; cases hout

/-- the re-add never panics and never fails for another reason than size: it returns a PDU
or `PduTooLarge` -/
theorem readd_total (cfg : Rc.Upd.Cfg) (f : Rc.Nlri.Fam) (pdu : Bytes) (m : Rc.Upd.Msg)
    (hacc : Rc.Upd.parseUpdate cfg pdu = .ok m) (hlen : m.attrs.length ≤ 43690)
    (hw : cfg.four = true ∨ widthFree m.attrs.length m.attrs = true) :
    (∃ out, readdPdu cfg m f (cfg.rx (Rc.Upd.famCode f)) = .ok out) ∨
      readdPdu cfg m f (cfg.rx (Rc.Upd.famCode f)) = .err := by
  obtain ⟨b, n, o, _, _, _, _, hfit, hbig⟩ := reencode_whole_message cfg f pdu m hacc hlen hw
  by_cases hsz : calcPduLen f (cfg.rx (Rc.Upd.famCode f)) b n ≤ 4096
  · obtain ⟨out', m', h1, _⟩ := hfit hsz
    exact .inl ⟨out', h1⟩
  · exact .inr (hbig (by omega))

/-- marker, length, type 2, no withdrawn routes, then the attributes: an UPDATE around an
attribute section of at most 255 octets (for the examples below) -/
private def exPdu (attrs : Bytes) (nlri : Bytes) : Bytes :=
  List.replicate 16 0xff ++ [0, UInt8.ofNat (23 + attrs.length + nlri.length), 2, 0, 0, 0, UInt8.ofNat attrs.length] ++ attrs ++ nlri

/-- the hypotheses of `readd_preserves_nlri` hold for non-trivial values: ORIGIN + an IPv6 unicast
MP_REACH_NLRI announcing 2001:db8::/32 and 2001:db8:1::/48 + an MP_UNREACH_NLRI withdrawing
2001:db8:2::/48 in a four-octet session - accepted, all NLRI parse, the re-add returns a PDU -/
example :
    (match Rc.Upd.parseUpdate ⟨true, []⟩ (exPdu ([0x40, 1, 1, 0] ++
        [0x80, 14, 33, 0, 2, 1, 16] ++ List.replicate 16 1 ++ [0, 32, 0x20, 0x01, 0x0d, 0xb8, 48, 0x20, 0x01, 0x0d, 0xb8, 0, 1] ++
        [0x80, 15, 10, 0, 2, 1, 48, 0x20, 0x01, 0x0d, 0xb8, 0, 2]) []) with
      | .ok m => decide (m.attrs.length ≤ 43690) && (annView m .v6u false).all Rc.Upd.isOkItem &&
          (annView m .v6u false).length == 2 && (wdView m .v6u false).all Rc.Upd.isOkItem &&
          (wdView m .v6u false).length == 1 && (readdPdu ⟨true, []⟩ m .v6u false).isOk
      | _ => false) = true := by decide +kernel

/-- ... and for conventional IPv4 unicast NLRI with path identifiers in an ADD-PATH session
(withdrawn 10.1.0.0/16 with path id 7, announced 10.0.0.0/8 with path id 1) -/
example :
    (match Rc.Upd.parseUpdate ⟨true, [((1, 1), .both)]⟩
        (List.replicate 16 0xff ++ [0, 40, 2, 0, 7, 0, 0, 0, 7, 16, 10, 1, 0, 4, 0x40, 1, 1, 0, 0, 0, 0, 1, 8, 10]) with
      | .ok m => (annView m .v4u true).all Rc.Upd.isOkItem && (annView m .v4u true).length == 1 &&
          (wdView m .v4u true).all Rc.Upd.isOkItem && (wdView m .v4u true).length == 1 &&
          (readdPdu ⟨true, [((1, 1), .both)]⟩ m .v4u true).isOk
      | _ => false) = true := by decide +kernel

/-- the hypotheses of `readd_prefix_until_error` with an NLRI that does not parse: the K7 input
(an IPv6 unicast MP_REACH_NLRI announcing 2001:db8::/32 and then a /64 with two address octets) is
accepted, the typed iterator yields one `Ok` item and an `Err`, the re-add returns a PDU -/
example :
    (match Rc.Upd.parseUpdate ⟨true, []⟩ (exPdu ([0x40, 1, 1, 0] ++
        [0x80, 14, 29, 0, 2, 1, 16] ++ List.replicate 16 1 ++ [0, 32, 0x20, 0x01, 0x0d, 0xb8, 64, 0x20, 0x01]) []) with
      | .ok m => (annView m .v6u false).length == 2 && !(annView m .v6u false).all Rc.Upd.isOkItem &&
          (okPrefix (annView m .v6u false)).length == 1 && (readdPdu ⟨true, []⟩ m .v6u false).isOk
      | _ => false) = true := by decide +kernel

/-- the statement without the restriction to the typed iterator's section: whatever `announcements()` of the
source yields for an IPv4 unicast builder (all items `Ok`) is what `announcements()` of the result yields -/
def ReaddAllIpv4Statement : Prop :=
  ∀ (pdu : Bytes) (m : Rc.Upd.Msg) (out : Bytes) (m' : Rc.Upd.Msg) (src res : List (Outcome Rc.Upd.AnyNlri)),
    Rc.Upd.parseUpdate ⟨true, []⟩ pdu = .ok m → readdPdu ⟨true, []⟩ m .v4u false = .ok out →
    Rc.Upd.parseUpdate ⟨true, []⟩ out = .ok m' → m.announcements = .ok (src, true) → src.all Rc.Upd.isOkItem = true →
    m'.announcements = .ok (res, true) → res.length = src.length

/-- the K15 witness: ORIGIN, an MP_REACH_NLRI of AFI/SAFI 1/1 announcing 10.1.0.0/16 and the conventional
announcement 20.0.10.0/24 -/
def k15Pdu : Bytes :=
  List.replicate 16 0xff ++ [0, 46, 2, 0, 0, 0, 19, 0x40, 1, 1, 0, 0x80, 14, 12, 0, 1, 1, 4, 1, 1, 1, 1, 0, 16, 10, 1, 24, 20, 0, 10]

/-- **known finding K15** (`readd_drops_mp_ipv4_unicast`): an accepted UPDATE with IPv4 unicast NLRI both in
the conventional section and in an MP_REACH_NLRI of AFI/SAFI 1/1 announces two prefixes (`announcements()`
yields two `Ok` items); the re-added PDU announces one - `typed_announcements::<_, Ipv4UnicastNlri>` hands the
builder the conventional section only (kernel-evaluated on the model, observed on the code: corpus line
`nlx v4u - 40010100800e0c000101040101010100100a01 1814000a`).  `reencode_whole_message` is therefore stated
over the typed iterator's items. -/
theorem readd_drops_mp_ipv4_unicast : ¬ ReaddAllIpv4Statement := by
  intro h
  have key : (do
      let m ← Rc.Upd.parseUpdate ⟨true, []⟩ k15Pdu
      let out ← readdPdu ⟨true, []⟩ m .v4u false
      let m' ← Rc.Upd.parseUpdate ⟨true, []⟩ out
      let src ← m.announcements
      let res ← m'.announcements
      pure (src.2 && res.2 && src.1.all Rc.Upd.isOkItem && src.1.length == 2 && res.1.length == 1)) =
        Outcome.ok true := by decide +kernel
  obtain ⟨m, h1, key⟩ := Outcome.bind_eq_ok key
  obtain ⟨out, h2, key⟩ := Outcome.bind_eq_ok key
  obtain ⟨m', h3, key⟩ := Outcome.bind_eq_ok key
  obtain ⟨⟨src, e⟩, h4, key⟩ := Outcome.bind_eq_ok key
  obtain ⟨⟨res, e'⟩, h5, key⟩ := Outcome.bind_eq_ok key
  simp only [Outcome.pure_eq, Outcome.ok.injEq, Bool.and_eq_true, beq_iff_eq] at key
  obtain ⟨⟨⟨⟨rfl, rfl⟩, hall⟩, hs⟩, hr⟩ := key
  have := h k15Pdu m out m' src res h1 h2 h3 h4 hall h5
  omega

/-! ### the size limit inside the re-add (known finding K16) -/

/-- *"through a builder seeded from the message - succeeds ... when the message's NLRI are
re-added"* as the property states it, even restricted to UPDATEs of at most 4096 octets (RFC
4271's own limit; K12 is about longer ones), a four-octet session without ADD-PATH and an IPv4
unicast builder: the re-add of every accepted UPDATE returns a PDU -/
def ReaddSucceedsStatement : Prop :=
  ∀ (pdu : Bytes) (m : Rc.Upd.Msg), pdu.length ≤ 4096 → Rc.Upd.parseUpdate ⟨true, []⟩ pdu = .ok m →
    ∃ out, readdPdu ⟨true, []⟩ m .v4u false = .ok out

/-- the K16 witness: ORIGIN and 1017 conventional announcements 10.x.y.0/24 - an UPDATE of 4095
octets -/
def k16Pdu : Bytes :=
  List.replicate 16 0xff ++ [0x0f, 0xff, 2, 0, 0, 0, 4, 0x40, 1, 1, 0] ++
    (List.range 1017).flatMap (fun i => [24, 10, UInt8.ofNat (i / 256), UInt8.ofNat i])

/-- **known finding K16** (`readd_within_limit_fails`): an accepted UPDATE of 4095 octets whose 1017
announcements all parse is refused by the re-add: `finish` has no conventional path, so the
IPv4 unicast NLRI move into an MP_REACH_NLRI (4 octets of attribute header, 3 of AFI/SAFI, 5 of
next hop, 1 reserved: 13 more), `calculate_pdu_length` says 4108 and `into_message` returns
`PduTooLarge` (kernel-evaluated on the model; observed on the code: corpus line
`nlx v4u - 40010100 <1017 x 180aHHLL>` -> `err`). -/
theorem readd_within_limit_fails : ¬ ReaddSucceedsStatement := by
  intro h
  have key : (do
      let m ← Rc.Upd.parseUpdate ⟨true, []⟩ k16Pdu
      pure (decide (k16Pdu.length ≤ 4096) && !(readdPdu ⟨true, []⟩ m .v4u false).isOk &&
        ((annView m .v4u false).length == 1017 && (annView m .v4u false).all Rc.Upd.isOkItem))) = Outcome.ok true := by
    decide +kernel
  obtain ⟨m, h1, key⟩ := Outcome.bind_eq_ok key
  simp only [Outcome.pure_eq, Outcome.ok.injEq, Bool.and_eq_true, decide_eq_true_eq] at key
  obtain ⟨out, hout⟩ := h k16Pdu m key.1.1 h1
  rw [hout] at key
  simp [Outcome.isOk] at key

/-- **readd_succeeds_partial** - what holds of *"succeeds"* for the re-add: for every accepted
UPDATE (any length the decoder takes, any session, every family) the three builder calls succeed,
and `into_message` returns a PDU **whenever the length `calculate_pdu_length` computes for the
re-framed PDU is at most 4096** - the header, the attribute map re-encoded, and the NLRI of the
builder's family in MP_REACH_NLRI (with the family's default next hop) / MP_UNREACH_NLRI.
`_partial`: without that hypothesis the clause is false (`readd_within_limit_fails`, K16; K12 for
longer sources).  Missing for the full statement: nothing that could be proved - the code refuses
these inputs; the hypothesis is about the RESULT's size because no bound on the source's size
short of "4096 minus the re-framing cost" (13 + 7 octets for conventional IPv4 sections, the
next-hop difference for MP sources) implies it. -/
theorem readd_succeeds_partial (cfg : Rc.Upd.Cfg) (f : Rc.Nlri.Fam) (pdu : Bytes) (m : Rc.Upd.Msg)
    (hacc : Rc.Upd.parseUpdate cfg pdu = .ok m) (hlen : m.attrs.length ≤ 43690)
    (hw : cfg.four = true ∨ widthFree m.attrs.length m.attrs = true) :
    ∃ (b : NlBuilder f) (n : Nat), readdBuilder m f (cfg.rx (Rc.Upd.famCode f)) = .ok b ∧ lenList b.attrs = .ok n ∧
      (calcPduLen f (cfg.rx (Rc.Upd.famCode f)) b n ≤ 4096 →
        ∃ out, readdPdu cfg m f (cfg.rx (Rc.Upd.famCode f)) = .ok out) := by
  obtain ⟨b, n, o, hb, _, _, hl, hfit, _⟩ := reencode_whole_message cfg f pdu m hacc hlen hw
  refine ⟨b, n, hb, hl, fun hsz => ?_⟩
  obtain ⟨out, _, h1, _⟩ := hfit hsz
  exact ⟨out, h1⟩

/-- the hypothesis of `readd_succeeds_partial` is met on the boundary: 1014 conventional /24s + ORIGIN
(source 4083 octets) re-frame to exactly 4096 octets and the re-add returns a PDU -/
example :
    (match Rc.Upd.parseUpdate ⟨true, []⟩ (List.replicate 16 0xff ++ [0x0f, 0xf3, 2, 0, 0, 0, 4, 0x40, 1, 1, 0] ++
        (List.range 1014).flatMap (fun i => [24, 10, UInt8.ofNat (i / 256), UInt8.ofNat i])) with
      | .ok m =>
        (match readdBuilder m .v4u false, readdPdu ⟨true, []⟩ m .v4u false with
          | .ok b, .ok out => decide (calcPduLen .v4u false b 4 = 4096) && out.length == 4096
          | _, _ => false)
      | _ => false) = true := by decide +kernel

/-! ### a builder that already holds NLRI (request `nlt`) -/

/-- **readd_extends_builder** - `add_announcements_from_pdu` + `add_withdrawals_from_pdu` on a builder
that already has both MP builders (update_builder.rs:250 / :277 - e.g. the same message re-added a
second time, `readdTwiceBuilder`): the calls never fail, the attribute map is untouched, and the
builder then holds its own NLRI first, followed by the `Ok` items the typed iterators of the
message yield before their first item that is not `Ok` (`la` / `lw` with `anyNlris .. = okPrefix ..`,
well-formed values).  Outside the property ("a builder seeded from the message"): stated so that the
modelled branch is covered by a theorem and by the correspondence (`nlt` lines). -/
theorem readd_extends_builder (m : Rc.Upd.Msg) (f : Rc.Nlri.Fam) (ap : Bool) (b : NlBuilder f)
    (a0 w0 : List (Nat × f.Val)) (ha : b.ann = some a0) (hw : b.wd = some w0) :
    ∃ la lw b1, Rc.Upd.NlrisWf f ap la ∧ Rc.Upd.NlrisWf f ap lw ∧
      okPrefix (annView m f ap) = Rc.Upd.anyNlris f ap la ∧ okPrefix (wdView m f ap) = Rc.Upd.anyNlris f ap lw ∧
      addAnnouncementsFromPdu m f ap b = .ok b1 ∧
      addWithdrawalsFromPdu m f ap b1 = .ok { attrs := b.attrs, ann := some (a0 ++ la), wd := some (w0 ++ lw) } := by
  obtain ⟨la, h1, h2, h3⟩ := addAnn_ext_spec m f ap b a0 ha
  obtain ⟨lw, h4, h5, h6⟩ := addWd_ext_spec m f ap { b with ann := some (a0 ++ la) } w0 (by simpa using hw)
  exact ⟨la, lw, _, h1, h4, h2, h5, h3, by simpa using h6⟩

/-- the hypotheses of `readd_extends_builder` are met by the builder of a first round: ORIGIN, a conventional
withdrawal and a conventional announcement - after the second round (`readdTwiceBuilder`) the builder
holds each twice, and the PDU `into_message` returns announces / withdraws each twice -/
example :
    (match Rc.Upd.parseUpdate ⟨true, []⟩
        (List.replicate 16 0xff ++ [0, 34, 2, 0, 3, 16, 10, 1, 0, 4, 0x40, 1, 1, 0, 24, 20, 0, 10]) with
      | .ok m =>
        (match readdBuilder m .v4u false, readdTwiceBuilder m .v4u false, readdTwicePdu ⟨true, []⟩ m .v4u false with
          | .ok b1, .ok b2, .ok out =>
            (b1.ann.map List.length == some 1) && (b1.wd.map List.length == some 1) &&
            (b2.ann.map List.length == some 2) && (b2.wd.map List.length == some 2) &&
            (match Rc.Upd.parseUpdate ⟨true, []⟩ out with
              | .ok m' => (annView m' .v4u false).length == 2 && (wdView m' .v4u false).length == 2
              | _ => false)
          | _, _, _ => false)
      | _ => false) = true := by decide +kernel

end Rc.Thm.C07
